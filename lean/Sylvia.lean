import Sylvia.Driver.BridgeOps
import Sylvia.Driver.JsonParse
import Sylvia.Driver.Loop
import Sylvia.Driver.MtOps
import Sylvia.Driver.Ops
import Sylvia.Driver.ProgParse
import Sylvia.Driver.Util
import Sylvia.Extracted.BridgeFns
import Sylvia.Extracted.BuilderFns
import Sylvia.Extracted.CasingFns
import Sylvia.Extracted.CheckGenFns
import Sylvia.Extracted.CtxFns
import Sylvia.Extracted.HandleFns
import Sylvia.Extracted.MtProxyFns
import Sylvia.Extracted.ReplyDataFns
import Sylvia.Extracted.ReplyNewFns
import Sylvia.Extracted.ReplyOnFns
import Sylvia.Extracted.ReplyParamFns
import Sylvia.Extracted.RetTypeFns
import Sylvia.Extracted.StripFns
import Sylvia.Extracted.Tables
import Sylvia.Extracted.UtilsFns
import Sylvia.Extracted.WheresFns
import Sylvia.Lemmas.Casing
import Sylvia.Lemmas.Gen
import Sylvia.Lemmas.Inter
import Sylvia.Lemmas.Lex
import Sylvia.Lemmas.Reply
import Sylvia.Lemmas.Serde
import Sylvia.Lemmas.SerdeRoundTrip
import Sylvia.Lemmas.Sort
import Sylvia.Lemmas.Tables
import Sylvia.Lemmas.UpperSnake
import Sylvia.Lemmas.ValuePass
import Sylvia.Model.Casing
import Sylvia.Model.Dispatch
import Sylvia.Model.Domain
import Sylvia.Model.EntryPoints
import Sylvia.Model.Facts
import Sylvia.Model.Gen
import Sylvia.Model.Inter
import Sylvia.Model.Json
import Sylvia.Model.Kinds
import Sylvia.Model.Lex
import Sylvia.Model.Multitest
import Sylvia.Model.Program
import Sylvia.Model.QueryResponses
import Sylvia.Model.Reply
import Sylvia.Model.Runtime
import Sylvia.Model.RustExtern
import Sylvia.Model.RustSem
import Sylvia.Model.Serde
import Sylvia.Model.Strip
import Sylvia.Model.Validate
import Sylvia.Model.WF
import Sylvia.Thm.C01
import Sylvia.Thm.C02
import Sylvia.Thm.C03
import Sylvia.Thm.C03Domain
import Sylvia.Thm.C04
import Sylvia.Thm.C05
import Sylvia.Thm.C05Gen
import Sylvia.Thm.C05Refine
import Sylvia.Thm.C06
import Sylvia.Thm.C06Closed
import Sylvia.Thm.C07
import Sylvia.Thm.C08
import Sylvia.Thm.C09
import Sylvia.Thm.C10
import Sylvia.Thm.C10Builder
import Sylvia.Thm.C11
import Sylvia.Thm.C11Bridge
import Sylvia.Thm.C11Features
import Sylvia.Thm.C12
import Sylvia.Thm.C13
import Sylvia.Thm.C14
import Sylvia.Thm.C15
import Sylvia.Thm.C16
import Sylvia.Thm.C17
import Sylvia.Thm.C18
import Sylvia.Thm.C19
import Sylvia.Thm.C20
import Sylvia.Thm.CtxFn
import Sylvia.Thm.GenericsFn
import Sylvia.Thm.HandlesFn
import Sylvia.Thm.MtProxyFn
import Sylvia.Thm.Obl.Complete.C01
import Sylvia.Thm.Obl.Complete.C02
import Sylvia.Thm.Obl.Complete.C03
import Sylvia.Thm.Obl.Complete.C04
import Sylvia.Thm.Obl.Complete.C05
import Sylvia.Thm.Obl.Complete.C06
import Sylvia.Thm.Obl.Complete.C07
import Sylvia.Thm.Obl.Complete.C08
import Sylvia.Thm.Obl.Complete.C09
import Sylvia.Thm.Obl.Complete.C10
import Sylvia.Thm.Obl.Complete.C11
import Sylvia.Thm.Obl.Complete.C12
import Sylvia.Thm.Obl.Complete.C13
import Sylvia.Thm.Obl.Complete.C14
import Sylvia.Thm.Obl.Complete.C15
import Sylvia.Thm.Obl.Complete.C16
import Sylvia.Thm.Obl.Complete.C17
import Sylvia.Thm.Obl.Complete.C18
import Sylvia.Thm.Obl.Complete.C19
import Sylvia.Thm.Obl.Complete.C20
import Sylvia.Thm.Obl.Convertible
import Sylvia.Thm.Obl.ConvertibleCfg
import Sylvia.Thm.Obl.Multitest
import Sylvia.Thm.Obl.Override
import Sylvia.Thm.Obl.Published
import Sylvia.Thm.Obl.T.accessor_documented
import Sylvia.Thm.Obl.T.ctx_tables_agree
import Sylvia.Thm.Obl.T.epDefaults_documented
import Sylvia.Thm.Obl.T.epName_documented
import Sylvia.Thm.Obl.T.msgAttrFwd_is_msgType
import Sylvia.Thm.Obl.T.msgName_documented
import Sylvia.Thm.Obl.T.msgTypeNew_documented
import Sylvia.Thm.Obl.T.msg_is_framework
import Sylvia.Thm.Obl.T.replyOn_documented
import Sylvia.Thm.Obl.T.result_and_leg
import Sylvia.Thm.Obl.T.svAttributes_documented
import Sylvia.Thm.Obl.T.wrapperName_documented
import Sylvia.Thm.Obl.Tables
import Sylvia.Thm.Obl.Wrapper
import Sylvia.Thm.PublishedFn
import Sylvia.Thm.ReplyDataFn
import Sylvia.Thm.ReplyNewFn
import Sylvia.Thm.ReplyOnFn
import Sylvia.Thm.ReplyParamFn
import Sylvia.Thm.RetTypeFn
import Sylvia.Thm.StripFn
import Sylvia.Util.Bytes
