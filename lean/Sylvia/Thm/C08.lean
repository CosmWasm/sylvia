import Sylvia.Lemmas.Reply
import Sylvia.Lemmas.Serde
import Sylvia.Lemmas.UpperSnake
/-!
# C08 — sub-message builders and reply dispatch agree on id, trigger and payload
-/
namespace C08
open Sylvia Sylvia.Reply Sylvia.Serde

/-- distinct handler ids get distinct table entries, hence distinct numeric ids -/
theorem ids_distinct (b : Bool) (tyEq : Ty → Ty → Bool) (ms : List Method) :
    (((replyTable b tyEq ms).1).map (·.id)).Nodup := (replyTable_ok b tyEq ms).2

theorem idOf_getElem {tbl : List Entry} {id : String} {n : Nat} (h : idOf tbl id = some n) :
    ∃ hn : n < tbl.length, tbl[n].id = id := by
  rw [idOf, findIdx?_eq, List.findIdx?_eq_some_iff_getElem] at h
  exact ⟨h.1, beq_iff_eq.mp h.2.1⟩

/-- two handler names with different id strings never share a numeric id -/
theorem numeric_ids_injective (tbl : List Entry) (hnd : (tbl.map (·.id)).Nodup) (id1 id2 : String) (n : Nat)
    (h1 : idOf tbl id1 = some n) (h2 : idOf tbl id2 = some n) : id1 = id2 := by
  obtain ⟨_, e1⟩ := idOf_getElem h1
  obtain ⟨_, e2⟩ := idOf_getElem h2
  exact e1.symm.trans e2

/-- **Trigger.** The builder requests a reply for exactly the outcomes that have a method: `always` iff an
`always` method exists or both a `success` and an `error` method exist; otherwise the single outcome present. -/
theorem trigger_spec (e : Entry) :
    let hasA := e.handlers.any (·.2 == .always)
    let hasS := e.handlers.any (·.2 == .success)
    let hasE := e.handlers.any (·.2 == .error)
    (cwReplyOn e = .always ↔ (hasA = true ∨ (hasS = true ∧ hasE = true))) ∧
    (cwReplyOn e = .success ↔ (hasA = false ∧ hasS = true ∧ hasE = false)) ∧
    (cwReplyOn e = .error ↔ (hasA = false ∧ hasS = false)) := by
  unfold cwReplyOn
  generalize e.handlers.any (·.2 == .always) = a, e.handlers.any (·.2 == .success) = s, e.handlers.any (·.2 == .error) = r
  revert a s r
  decide

/-- the builders, on the fields the macro decides -/
structure Built where
  id : Nat
  trigger : ReplyOn
  gasLimit : Option Nat
  /-- the wrapped message, opaque -/
  msg : String
  payload : List Json

/-- `impl SubMsgMethods for SubMsg`: `SubMsg { reply_on, id, payload, ..self }` -/
def onSubMsg (n : Nat) (e : Entry) (self : Built) (payload : List Json) : Built :=
  { self with id := n, trigger := cwReplyOn e, payload := payload }

/-- `impl SubMsgMethods for WasmMsg / CosmosMsg`: `SubMsg { reply_on, id, msg: self.into(), payload, gas_limit: None }` -/
def onMsg (n : Nat) (e : Entry) (msg : String) (payload : List Json) : Built :=
  { id := n, trigger := cwReplyOn e, gasLimit := none, msg := msg, payload := payload }

theorem submsg_preserves (n : Nat) (e : Entry) (self : Built) (p : List Json) :
    (onSubMsg n e self p).msg = self.msg ∧ (onSubMsg n e self p).gasLimit = self.gasLimit ∧
    (onSubMsg n e self p).id = n ∧ (onSubMsg n e self p).trigger = cwReplyOn e := ⟨rfl, rfl, rfl, rfl⟩

theorem msg_converted (n : Nat) (e : Entry) (msg : String) (p : List Json) :
    (onMsg n e msg p).msg = msg ∧ (onMsg n e msg p).gasLimit = none ∧ (onMsg n e msg p).id = n := ⟨rfl, rfl, rfl⟩

/-- **Payload round trip.** Canonical payload values (what `to_json_binary` writes for the builder's arguments)
decode back to themselves under the same parameter types — one value or several. -/
theorem payload_roundtrip_one (t : VTy) (j c : Json) (h : decodeVal false t j = some c) : decodeVal false t c = some c :=
  decodeVal_idem false false t j c h

theorem mapM_zip_idem {α β : Type} (f : α → β → Option β) (hf : ∀ a b c, f a b = some c → f a c = some c)
    (as : List α) (bs cs : List β) (h : (as.zip bs).mapM (fun p => f p.1 p.2) = some cs) :
    (as.zip cs).mapM (fun p => f p.1 p.2) = some cs := by
  induction as generalizing bs cs with
  | nil => simpa using h
  | cons a as ih =>
    cases bs with
    | nil => cases h; rfl
    | cons b bs =>
      simp only [List.zip_cons_cons, List.mapM_cons, Option.bind_eq_bind, Option.bind_eq_some_iff, Option.pure_def,
        Option.some.injEq] at h
      obtain ⟨c, hc, cr, hr, rfl⟩ := h
      simp only [List.zip_cons_cons, List.mapM_cons, hf a b c hc, ih bs cr hr]
      rfl

theorem payload_roundtrip_many : ∀ (ts : List VTy) (js cs : List Json),
    (List.zip ts js).mapM (fun p => decodeVal false p.1 p.2) = some cs → ts.length = js.length →
    (List.zip ts cs).mapM (fun p => decodeVal false p.1 p.2) = some cs :=
  fun ts js cs h _ => mapM_zip_idem (decodeVal false) (decodeVal_idem false false) ts js cs h

/-- **the id constant's name determines the handler name**, for handler names of the property's shape (lower-case
words, each optionally ending in digits, joined by single underscores): two handlers never share an id by accident -/
theorem id_string_injective_on_shape (w w' : Casing.Word) (ws ws' : List Casing.Word)
    (h : Casing.ccUpperSnake (Casing.render (w :: ws)) = Casing.ccUpperSnake (Casing.render (w' :: ws'))) :
    Casing.render (w :: ws) = Casing.render (w' :: ws') :=
  Casing.upperSnake_injective_of_roundtrip (Casing.wire_name_shape w ws) (Casing.wire_name_shape w' ws') h

/-- outside that shape the id string is *not* injective: `foo1` and `foo_1` share `FOO_1` (recorded limitation) -/
example : Casing.ccUpperSnake [.lower 5, .lower 14, .lower 14, .digit 1] = Casing.ccUpperSnake [.lower 5, .lower 14, .lower 14, .us, .digit 1] := by decide

end C08
