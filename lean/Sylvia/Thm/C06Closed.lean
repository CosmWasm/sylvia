import Sylvia.Thm.C06
import Sylvia.Thm.Obl.Override
import Sylvia.Thm.Obl.T.epDefaults_documented
/-! C06 with its table hypotheses discharged against the regenerated tables. -/
namespace C06
open Sylvia Gen Extracted

theorem ep_iff_closed (c : Contract) (k : Kind) :
    k ∈ entryPoints c ↔ (defined c k = true ∧ k ∉ namedKinds c) :=
  ep_iff Obl.override_table_faithful Obl.epDefaults_documented c k

/-- **C06, forwarding.** Every emitted entry point is named after its kind, takes the context
parameters of that kind, decodes the contract-level message *of that kind* and passes exactly those
context values on to dispatch (the dispatch call itself is one of three recognised templates, checked by
`Obl.extraction_complete_C06`). -/
theorem ep_forwards (k : Kind) :
    (epFn k).params = (epFn k).values ∧
    (epFn k).values = (match k with
      | .exec | .instantiate => [[100, 101, 112, 115], [101, 110, 118], [105, 110, 102, 111]]
      | _ => [[100, 101, 112, 115], [101, 110, 118]]) ∧
    (k ≠ .reply → (epFn k).msgAccessor = lookup accessorWrapperName k) := by
  cases k <;> decide +kernel

end C06
