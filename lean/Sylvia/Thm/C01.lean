import Sylvia.Lemmas.Casing
import Sylvia.Lemmas.SerdeRoundTrip
import Sylvia.Model.Gen
import Sylvia.Lemmas.Gen
/-!
# C01 — generated messages have the JSON shape named by the method signature
-/
namespace C01
open Sylvia Sylvia.Gen Sylvia.Serde Casing

/-- **Wire name.** For every method name in the property's shape (lower-case words, each optionally
ending in digits, joined by single underscores) the name serde puts on the wire is the method name. -/
theorem wire_name_is_method_name (w : Word) (ws : List Word) (m : Method) (hm : m.name = render (w :: ws)) :
    wireName m = Casing.toString (render (w :: ws)) := by
  unfold wireName variantName
  rw [hm, wire_name_shape]

/-- **Shape.** An enum message serialises to an object with exactly one key, the variant's wire name,
whose value is the object of its fields (one member per argument, keyed by the argument's name, in order). -/
theorem encode_shape (k : Kind) (ms : List Method) (i : Nat) (m : Method)
    (hm : (variantsOf k ms)[i]? = some m) (cs : List Json) :
    encodeEnum (variantSpecs k ms) i (pairUp (m.args.map fieldSpec) cs) =
      .obj [(wireName m, .obj (pairUp (m.args.map fieldSpec) cs))] ∧
    (m.args.length = cs.length → (pairUp (m.args.map fieldSpec) cs).map Prod.fst = m.args.map (·.name)) := by
  constructor
  · unfold encodeEnum variantSpecs
    simp [List.getElem?_map, hm, variantSpec]
  · intro hlen
    exact (keys_pairUp _ _ (by simpa using hlen)).trans (names_fieldSpec _)

/-- one variant per annotated method of the kind, in source order, and no other -/
theorem variants_are_methods_of_kind (k : Kind) (ms : List Method) :
    (variantSpecs k ms).map (·.wire) = (ms.filter (fun m => m.kind? == some k)).map wireName := by
  simp [variantSpecs, variantsOf, variantSpec, Function.comp_def]

/-- **Round trip.** Parsing the JSON of a message gives back an equal message (same variant, same field
values), for every program whose wire names are distinct within the type and every canonical value list. -/
theorem decode_encode (k : Kind) (ms : List Method) (i : Nat) (m : Method)
    (hm : (variantsOf k ms)[i]? = some m)
    (hwires : ((variantSpecs k ms).map (·.wire)).Nodup)
    (hargs : (m.args.map (·.name)).Nodup)
    (cs : List Json) (hlen : m.args.length = cs.length)
    (hcan : ∀ q ∈ (m.args.map fieldSpec).zip cs, decodeVal false q.1.ty q.2 = some q.2) :
    decodeEnum false (variantSpecs k ms) (encodeEnum (variantSpecs k ms) i (pairUp (m.args.map fieldSpec) cs))
      = some (i, pairUp (m.args.map fieldSpec) cs) := by
  exact decodeEnum_encodeEnum false (variantSpecs k ms) i (variantSpec m) cs (by simp [variantSpecs, List.getElem?_map, hm]) hwires
    ((List.length_map _).trans hlen) ((names_fieldSpec m.args).symm ▸ hargs) hcan

/-- instantiate / migrate: the flat object of the arguments round-trips -/
theorem struct_decode_encode (m : Method) (hargs : (m.args.map (·.name)).Nodup)
    (cs : List Json) (hlen : m.args.length = cs.length)
    (hcan : ∀ q ∈ (m.args.map fieldSpec).zip cs, decodeVal false q.1.ty q.2 = some q.2) :
    decodeStruct false (m.args.map fieldSpec) (.obj (pairUp (m.args.map fieldSpec) cs))
      = some (pairUp (m.args.map fieldSpec) cs) := by
  unfold decodeStruct
  exact decodeFields_pairUp false _ cs (by simpa using hlen)
    ((names_fieldSpec m.args).symm ▸ hargs) hcan

/-- **No other name.** A message type accepts a document only under the wire name of one of its variants. -/
theorem accepts_only_declared_names (k : Kind) (ms : List Method) (d : Json)
    (r : Nat × List (String × Json))
    (h : decodeEnum false (variantSpecs k ms) d = some r) :
    ∃ key body, d = .obj [(key, body)] ∧ ∃ m ∈ ms, m.kind? = some k ∧ wireName m = key := by
  obtain ⟨key, body, hd, hk⟩ := decodeEnum_key false _ d r h
  refine ⟨key, body, hd, ?_⟩
  simp only [variantSpecs, List.map_map, List.mem_map, mem_variantsOf] at hk
  obtain ⟨m, ⟨hm, hkind⟩, hw⟩ := hk
  exact ⟨m, hm, hkind, hw⟩

end C01
