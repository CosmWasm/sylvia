import Sylvia.Extracted.BridgeFns
/-!
# C11 on the regenerated code of `sylvia/src/into_response.rs`

`Extracted.Bridge.SubMsg.into_msg` and `Extracted.Bridge.Response.into_response` are rewritten from the current source on every
run by the function translator (`vlib/rs2lean.py`, profile `bridge`). An arm of the `match` compiled under
`#[cfg(feature = "f")]` is translated as `if feat "f" then <arm> else <wildcard arm>`, so the statements below are about the code
as built under **every** feature set `feat` at once. `variantFeature` is cosmwasm-std 2.2's own table of the feature each
`CosmosMsg` variant is declared under (trusted, DESIGN §6): a message of a variant that does not exist under `feat` cannot be
constructed in such a build, hence the hypothesis `existsUnder`.

The theorems say, for every response over the empty custom type (any number of sub-messages of any kind, any ids, payloads,
gas limits, triggers, attributes, events, data): the regenerated function never panics; it returns a response whose
sub-messages are the given ones in order — id, payload, gas limit, reply trigger and message content untouched, only the type
index changed — and whose attributes, events and data are the given ones, when no message is custom; and it returns an error
(and no response) exactly when some message is custom.
-/
namespace C11B
open RustSem RustExtern Extracted.Bridge

variable {X : Ext} {C T : Type}

inductive Kind | bank | custom | staking | distribution | stargate | ibc | wasm | gov | any
deriving DecidableEq, Repr

def kindOf : CosmosMsg X T → Kind
  | .Bank _ => .bank | .Custom _ => .custom | .Staking _ => .staking | .Distribution _ => .distribution
  | .Stargate _ _ => .stargate | .Ibc _ => .ibc | .Wasm _ => .wasm | .Gov _ => .gov | .Any _ => .any

/-- the cargo feature of cosmwasm-std (forwarded under the same name by sylvia) a variant of `CosmosMsg` is declared under -/
def variantFeature : Kind → Option String
  | .bank | .wasm | .custom => none
  | .staking | .distribution => some "staking"
  | .ibc | .gov | .stargate => some "stargate"
  | .any => some "cosmwasm_2_0"

def existsUnder (feat : String → Bool) (k : Kind) : Bool :=
  match variantFeature k with
  | none => true
  | some f => feat f

/-- what a message holds, whatever custom type it is indexed by -/
inductive Content (X : Ext) where
  | Bank (a : X.Bank) | Custom | Staking (a : X.Staking) | Distribution (a : X.Distribution)
  | Stargate (type_url : String) (value : X.Binary) | Ibc (a : X.Ibc) | Wasm (a : X.Wasm) | Gov (a : X.Gov) | Any (a : X.Any)

def content : CosmosMsg X T → Content X
  | .Bank a => .Bank a | .Custom _ => .Custom | .Staking a => .Staking a | .Distribution a => .Distribution a
  | .Stargate u v => .Stargate u v | .Ibc a => .Ibc a | .Wasm a => .Wasm a | .Gov a => .Gov a | .Any a => .Any a

/-- everything the property lists about a sub-message: id, payload, content, gas limit, reply trigger -/
def view (m : SubMsg X T) : Nat × X.Binary × Content X × Option Nat × ReplyOn :=
  (m.id, m.payload, content m.msg, m.gas_limit, m.reply_on)

def customErr : StdError := .generic_err "Custom Empty message should not be sent"

theorem into_msg_spec (feat : String → Bool) (m : SubMsg X CwEmpty) :
    ∃ r, SubMsg.into_msg (C := C) feat m = .ok r ∧
      (kindOf m.msg = .custom → r = .error customErr) ∧
      (kindOf m.msg ≠ .custom → existsUnder feat (kindOf m.msg) = true → ∃ m', r = .ok m' ∧ view m' = view m) := by
  obtain ⟨id, payload, msg, gas, reply⟩ := m
  cases msg with
  | Custom _ => exact ⟨_, rfl, fun _ => rfl, fun h => absurd rfl h⟩
  | Bank _ | Wasm _ => exact ⟨_, rfl, nofun, fun _ _ => ⟨_, rfl, rfl⟩⟩
  | Staking _ | Distribution _ | Stargate _ _ | Ibc _ | Gov _ | Any _ =>
    refine ⟨_, (apply_ite Res.ok ..).symm, nofun, fun _ h => ?_⟩
    exact ⟨_, if_pos h, rfl⟩

/-- **never panics, never loops** -/
theorem into_msg_total (feat : String → Bool) (m : SubMsg X CwEmpty) :
    ∃ r, SubMsg.into_msg (C := C) feat m = .ok r :=
  let ⟨r, h, _⟩ := into_msg_spec feat m; ⟨r, h⟩

/-- a non-custom message of a variant that exists under the feature set is converted with every field intact -/
theorem into_msg_ok (feat : String → Bool) (m : SubMsg X CwEmpty)
    (hex : existsUnder feat (kindOf m.msg) = true) (hc : kindOf m.msg ≠ .custom) :
    ∃ m' : SubMsg X C, SubMsg.into_msg feat m = .ok (.ok m') ∧ view m' = view m := by
  obtain ⟨r, h, _, hok⟩ := into_msg_spec (C := C) feat m
  obtain ⟨m', rfl, hv⟩ := hok hc hex
  exact ⟨m', h, hv⟩

/-- a custom message is refused, whatever the features -/
theorem into_msg_custom (feat : String → Bool) (m : SubMsg X CwEmpty) (hc : kindOf m.msg = .custom) :
    SubMsg.into_msg (C := C) feat m = .ok (.error customErr) := by
  obtain ⟨r, h, hcu, _⟩ := into_msg_spec (C := C) feat m
  rw [h, hcu hc]

/-- an error of `into_msg` on a message that exists under the feature set means the message is custom -/
theorem into_msg_err (feat : String → Bool) (m : SubMsg X CwEmpty) (hex : existsUnder feat (kindOf m.msg) = true)
    (e : StdError) (h : SubMsg.into_msg (C := C) feat m = .ok (.error e)) : kindOf m.msg = .custom :=
  Decidable.by_contra fun hc => by
    obtain ⟨m', h', _⟩ := into_msg_ok (C := C) feat m hex hc
    rw [h'] at h; cases h

/-- the iterator pipeline `messages.into_iter().map(|msg| msg.into_msg()).collect::<StdResult<_>>()`, builder calls evaluated -/
theorem into_response_eq (feat : String → Bool) (r : Response X CwEmpty) :
    Response.into_response (T := T) feat r = (collectResult (SubMsg.into_msg feat) r.messages).bind fun
      | .error e => .ok (.error e)
      | .ok ms => .ok (.ok { messages := ms, attributes := r.attributes, events := r.events, data := r.data }) := by
  simp only [Response.into_response, bind_ok_right]
  rfl

/-- **C11 on the regenerated code, success half.** Under every feature set: a response none of whose messages is custom reaches the
caller with every sub-message (order, id, payload, gas limit, reply trigger, content), attribute, event and the data intact. -/
theorem code_ok (feat : String → Bool) (r : Response X CwEmpty)
    (h : ∀ m ∈ r.messages, existsUnder feat (kindOf m.msg) = true ∧ kindOf m.msg ≠ .custom) :
    ∃ r' : Response X T, Response.into_response feat r = .ok (.ok r') ∧ r'.messages.map view = r.messages.map view
      ∧ r'.attributes = r.attributes ∧ r'.events = r.events ∧ r'.data = r.data := by
  obtain ⟨ms', hms, hv⟩ := collectResult_ok (f := SubMsg.into_msg (C := T) feat) view view r.messages
    fun m hm => into_msg_ok feat m (h m hm).1 (h m hm).2
  exact ⟨_, by rw [into_response_eq, hms]; rfl, hv, rfl, rfl, rfl⟩

/-- **C11 on the regenerated code, failure half.** The conversion fails — an error, no partial response — exactly when the response
contains a custom-typed message. -/
theorem code_err_iff (feat : String → Bool) (r : Response X CwEmpty)
    (hex : ∀ m ∈ r.messages, existsUnder feat (kindOf m.msg) = true) :
    (∃ e, Response.into_response (T := T) feat r = .ok (.error e)) ↔ ∃ m ∈ r.messages, kindOf m.msg = .custom := by
  constructor
  · rintro ⟨e, he⟩
    apply Decidable.by_contra
    intro h
    obtain ⟨r', hr', _⟩ := code_ok (T := T) feat r fun m hm => ⟨hex m hm, fun hk => h ⟨m, hm, hk⟩⟩
    rw [hr'] at he; cases he
  · intro h
    have := collectResult_err (f := SubMsg.into_msg (C := T) feat) r.messages (fun m _ => into_msg_custom feat m)
      (fun m hm hc => (into_msg_ok feat m (hex m hm) hc).imp fun _ => And.left) h
    exact ⟨customErr, by rw [into_response_eq, this]; rfl⟩

/-- **never panics**: whatever the response and the features, the regenerated `into_response` returns normally -/
theorem code_total (feat : String → Bool) (r : Response X CwEmpty) :
    ∃ out, Response.into_response (T := T) feat r = .ok out := by
  obtain ⟨o, ho⟩ := collectResult_total (into_msg_total (C := T) feat) r.messages
  rw [into_response_eq, ho]
  cases o <;> exact ⟨_, rfl⟩

/-- non-vacuity: payloads are strings; under the default feature set (staking only) a bank, a staking and a wasm message with
different ids, gas limits and triggers are converted, and adding a custom one makes the conversion fail -/
def XS : Ext := ⟨String, String, String, String, String, String, String, String, String × String, String⟩
def featDefault (f : String) : Bool := f == "staking"
def demo : Response XS CwEmpty :=
  { messages := [⟨1, "p", .Bank "b", some 5, .Always⟩, ⟨2, "", .Staking "s", none, .Never⟩, ⟨3, "q", .Wasm "w", some 0, .Error⟩],
    attributes := [("a", "b")], events := ["e"], data := some "d" }

example : ∀ m ∈ demo.messages, existsUnder featDefault (kindOf m.msg) = true ∧ kindOf m.msg ≠ .custom := by
  decide
example : ∃ e, Response.into_response (T := Nat) featDefault { demo with messages := demo.messages ++ [⟨4, "", .Custom .mk, none, .Success⟩] }
    = .ok (.error e) :=
  (code_err_iff featDefault _ (by decide)).mpr ⟨⟨4, "", .Custom .mk, none, .Success⟩, by simp, rfl⟩

end C11B
