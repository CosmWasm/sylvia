import Sylvia.Extracted.CasingFns
import Sylvia.Model.Casing
/-!
# The rule behind the published name lists, on the regenerated code

`Extracted.CasingFns.serde_snake_case` is written by the function translator from `sylvia-derive/src/types/msg_variant.rs`
on every run. It computes exactly serde's `rename_all = "snake_case"` rule for variants (`Casing.serdeSnake`, the function the
theorems of C01 / C03 / C05 are about), and never panics. Strings are lists over the identifier alphabet `Casing.Ch`
(one byte per character, so `char_indices` offsets are positions).
-/
namespace PublishedFn
open RustSem Casing Extracted.CasingFns

theorem loop_eq : ∀ (xs : List Ch) (k : Nat) (acc : List Ch),
    serde_snake_case.loop0 (charIndicesFrom k xs) acc = .ok (.done (acc ++ serdeGo (k == 0) xs))
  | [], k, acc => by simp [charIndicesFrom, serde_snake_case.loop0, serdeGo]
  | c :: t, k, acc => by
    have hk : decide (k > 0) = !(k == 0) := by cases k <;> rfl
    rw [charIndicesFrom, serde_snake_case.loop0, serdeGo, hk]
    split <;> simp [loop_eq t (k + 1)]

/-- **the regenerated `serde_snake_case` is serde's variant rule**, for every string over the identifier alphabet -/
theorem serde_snake_case_eq (v : List Ch) : serde_snake_case v = .ok (serdeSnake v) := by
  simp [serde_snake_case, charIndices, loop_eq v 0 [], serdeSnake]

/-- non-vacuity / sanity: `Transfer2X` ↦ `transfer2_x` -/
example : serde_snake_case [Ch.upper 19, Ch.lower 17, Ch.digit 2, Ch.upper 23] = .ok [Ch.lower 19, Ch.lower 17, Ch.digit 2, Ch.us, Ch.lower 23] := by
  decide +kernel

end PublishedFn
