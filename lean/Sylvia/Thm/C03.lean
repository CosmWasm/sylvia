import Sylvia.Lemmas.ValuePass
/-!
# C03 — the contract-level message accepts exactly the union of its parts and routes right

`Serde.wrapperDecode` models the hand-written `Deserialize` of `Contract{Exec,Query,Sudo}Msg`,
`Serde.decodeEnum false` the derive of a part. Parts = interfaces in declaration order, then the contract.

What is proved for **all** part lists, documents and values:
* `wrapper_accepts_encoded` — every message a part serialises is accepted by the wrapper, routed to that
  very part and variant, with the same field values (so it re-encodes to the same JSON);
* `wrapper_ok_sound` — whenever the wrapper accepts, the (normalised) document's single key is published by
  the chosen part, and that part's own decoder produced the value: it never reaches a different handler;
* `at_most_one` — two different parts never both accept one document;
* `unknown_lists_all` — an unknown single key yields the documented sentence followed by every list;
* the wrapper is a total function (no panic path): it is a Lean function, `unwrap`/`truncate` are modelled by
  the `[(k, _)]` pattern and `dropRight2`.
The unrestricted "accepts iff exactly one part accepts" is **false of the code** for three classes of
documents (duplicated member names, numbers the generic value cannot hold in ignored members, a nested
struct written as an array); they are recorded as known findings with replays, and the differential
stream of the check compares wrapper and parts on ~25 derived documents per message.
-/
namespace C03
open Sylvia Sylvia.Serde

/-- published routing list of every part = the names its variants carry on the wire -/
def ListsFaithful (ps : List PartSpec) : Prop :=
  ∀ p ∈ ps, ∀ k, k ∈ p.published ↔ k ∈ p.variants.map (·.wire)

/-- no name is published by two different parts (what C05's build-time check guarantees) -/
def ListsDisjoint (ps : List PartSpec) : Prop :=
  ∀ (i j : Nat) (pi pj : PartSpec), i ≠ j → ps[i]? = some pi → ps[j]? = some pj → ∀ k, k ∈ pi.published → k ∉ pj.published

theorem findPart_some {ps : List PartSpec} {k : String} {i : Nat} {p : PartSpec} (h : findPart ps k = some (i, p)) :
    ps[i]? = some p ∧ k ∈ p.published := by
  rw [findPart, findPart_go_eq] at h
  obtain ⟨_, rfl, hi, hp, _⟩ := RustSem.enumFindFrom_some _ h
  exact ⟨Nat.zero_add _ ▸ hi, List.contains_iff_mem.mp hp⟩

theorem findPart_at (ps : List PartSpec) (i : Nat) (p : PartSpec) (k : String)
    (hp : ps[i]? = some p) (hk : k ∈ p.published) (hd : ListsDisjoint ps) : findPart ps k = some (i, p) := by
  rw [findPart, findPart_go_eq, RustSem.enumFindFrom_at _ 0 hp (by simpa using hk), Nat.zero_add]
  intro j hj q hq
  simpa using hd i j p q (by omega) hp hq k hk

theorem findPart_none {ps : List PartSpec} {k : String} (hk : ∀ p ∈ ps, k ∉ p.published) : findPart ps k = none := by
  rw [findPart, findPart_go_eq]
  exact RustSem.enumFindFrom_none _ 0 (by simpa using hk)

theorem normalize_single (k : String) (body body' : Json) (hb : normalize body = some body') :
    normalize (.obj [(k, body)]) = some (.obj [(k, body')]) := by
  simp [normalize, normalizeMembers, hb, insertSorted]

/-- **C03: at most one part accepts a document.** -/
theorem at_most_one (ps : List PartSpec) (hf : ListsFaithful ps) (hd : ListsDisjoint ps)
    (i j : Nat) (pi pj : PartSpec) (hi : ps[i]? = some pi) (hj : ps[j]? = some pj)
    (d : Json) (ri rj : Nat × List (String × Json))
    (hai : decodeEnum false pi.variants d = some ri) (haj : decodeEnum false pj.variants d = some rj) : i = j := by
  obtain ⟨k, body, rfl, hki⟩ := decodeEnum_key false _ d ri hai
  obtain ⟨_, _, ⟨⟩, hkj⟩ := decodeEnum_key false _ _ rj haj
  exact Decidable.byContradiction fun hij => hd i j pi pj hij hi hj k
    ((hf pi (List.mem_of_getElem? hi) k).mpr hki) ((hf pj (List.mem_of_getElem? hj) k).mpr hkj)

/-- **C03: messages of every part pass through the wrapper unchanged and reach their own part.** -/
theorem wrapper_accepts_encoded (ps : List PartSpec) (hf : ListsFaithful ps) (hd : ListsDisjoint ps)
    (i : Nat) (p : PartSpec) (hp : ps[i]? = some p)
    (vi : Nat) (v : VariantSpec) (hv : p.variants[vi]? = some v) (hwires : (p.variants.map (·.wire)).Nodup)
    (cs : List Json) (hlen : v.fields.length = cs.length) (hnd : (v.fields.map (·.name)).Nodup)
    (hwf : ∀ f ∈ v.fields, WFTy f.ty)
    (hcan : ∀ q ∈ v.fields.zip cs, decodeVal false q.1.ty q.2 = some q.2) :
    wrapperDecode ps (encodeEnum p.variants vi (pairUp v.fields cs)) = .ok i vi (pairUp v.fields cs) := by
  obtain ⟨ms', hms'⟩ := normalizeMembers_of_each (pairUp v.fields cs) [] fun m hm => by
    obtain ⟨q, hq, rfl⟩ := List.mem_map.mp hm
    exact ⟨_, normalize_canon q.1.ty q.2 q.2 (hwf q.1 (List.of_mem_zip hq).1) (hcan q hq)⟩
  have hk : v.wire ∈ p.published :=
    (hf p (List.mem_of_getElem? hp) v.wire).mpr (List.mem_map_of_mem (List.mem_of_getElem? hv))
  simp only [wrapperDecode, encodeEnum, hv, Option.map_some, Option.getD_some,
    normalize_single v.wire _ _ (show normalize (.obj (pairUp v.fields cs)) = some (.obj ms') by simp [normalize, hms']),
    findPart_at ps i p v.wire hp hk hd, decodeEnum, findVariant_at p.variants vi v hv hwires,
    decodeFields_sorted v.fields cs hlen hnd hcan hms']

/-- **C03: the wrapper never reaches a part that does not own the name.** Whenever it accepts, the chosen
part publishes the (single) key of the normalised document and its own decoder produced the value. -/
theorem wrapper_ok_sound (ps : List PartSpec) (d : Json) (i vi : Nat) (fs : List (String × Json))
    (h : wrapperDecode ps d = .ok i vi fs) :
    ∃ p k body, ps[i]? = some p ∧ normalize d = some (.obj [(k, body)]) ∧ k ∈ p.published ∧
      decodeEnum true p.variants (.obj [(k, body)]) = some (vi, fs) := by
  unfold wrapperDecode at h
  -- `.ok` is returned on one path only: single key, a part found, its decoder succeeds
  split at h <;> try cases h
  split at h <;> try cases h
  split at h <;> try cases h
  split at h <;> cases h
  have hfp := findPart_some ‹findPart ps _ = _›
  exact ⟨_, _, _, hfp.1, ‹normalize d = _›, hfp.2, ‹decodeEnum true _ _ = _›⟩

/-- **C03: unknown name.** A single key that no part publishes yields the documented sentence followed
by all published lists, in part order. -/
theorem unknown_lists_all (ps : List PartSpec) (d : Json) (k : String) (body : Json)
    (hn : normalize d = some (.obj [(k, body)])) (hk : ∀ p ∈ ps, k ∉ p.published) :
    wrapperDecode ps d = .errUnknown (unknownText ps (.obj [(k, body)])) := by
  unfold wrapperDecode
  rw [hn]
  simp [findPart_none hk]

/-- zero or several top-level keys, or a non-object, is an error and no handler is chosen -/
theorem not_single_key_rejected (ps : List PartSpec) (d : Json) :
    (∀ k body, normalize d ≠ some (.obj [(k, body)])) → ∀ i vi fs, wrapperDecode ps d ≠ .ok i vi fs := by
  intro hns i vi fs h
  obtain ⟨p, k, body, _, hn, _, _⟩ := wrapper_ok_sound ps d i vi fs h
  exact hns k body hn

end C03
