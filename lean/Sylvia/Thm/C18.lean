import Sylvia.Model.Validate
import Sylvia.Lemmas.Reply
/-!
# C18 — programs violating the documented constraints are rejected with a diagnostic

`Validate.validate*` model the validations of the three macros; an expansion is clean iff the list is
empty. One theorem per documented rule: a program breaking the rule is rejected, whatever the rest of
the program looks like; each proof exhibits the rule's own diagnostic in the list. For the reply table the
diagnostics of the fold are shown to be *monotone* (nothing raised is ever dropped) and each
documented conflict is shown to raise one.
-/
namespace C18
open Sylvia Sylvia.Gen Sylvia.Validate Sylvia.Reply

theorem no_new_rejected (v : VContract) (h : v.hasNew = false) : validateContract v ≠ [] :=
  List.ne_nil_of_mem (a := .noNew) <| by
    simp only [validateContract, List.mem_append, List.mem_singleton, h, Bool.not_false, if_true, true_or]

theorem new_with_params_rejected (v : VContract) (h1 : v.hasNew = true) (h2 : 0 < v.newParams) : validateContract v ≠ [] :=
  List.ne_nil_of_mem (a := .newWithParams) <| by
    simp only [validateContract, List.mem_append, List.mem_singleton, h1, Bool.not_true, Bool.false_eq_true, if_false, if_pos h2, true_or]

theorem no_instantiate_rejected (v : VContract) (h : countKind .instantiate v.contract.methods = 0) : validateContract v ≠ [] :=
  List.ne_nil_of_mem (a := .noInstantiate) <| by
    simp only [validateContract, List.mem_append, List.mem_singleton, if_pos h, true_or, or_true]

theorem several_instantiate_rejected (v : VContract) (h : 1 < countKind .instantiate v.contract.methods) : validateContract v ≠ [] :=
  List.ne_nil_of_mem (a := .manyInstantiate) <| by
    simp only [validateContract, List.mem_append, List.mem_singleton, if_neg (Nat.ne_zero_of_lt h), if_pos h, true_or, or_true]

theorem several_migrate_rejected (v : VContract) (h : 1 < countKind .migrate v.contract.methods) : validateContract v ≠ [] :=
  List.ne_nil_of_mem (a := .manyMigrate) <| by
    simp only [validateContract, List.mem_append, List.mem_singleton, if_pos h, true_or, or_true]

theorem iface_instantiate_rejected (v : VInterface) (h : 0 < countKind .instantiate v.iface.methods) : validateInterface v ≠ [] :=
  List.ne_nil_of_mem (a := .ifaceInstantiate) <| by
    simp only [validateInterface, List.mem_append, List.mem_singleton, if_pos h, true_or, or_true]

theorem iface_migrate_rejected (v : VInterface) (h : 0 < countKind .migrate v.iface.methods) : validateInterface v ≠ [] :=
  List.ne_nil_of_mem (a := .ifaceMigrate) <| by
    simp only [validateInterface, List.mem_append, List.mem_singleton, if_pos h, true_or, or_true]

theorem iface_generics_rejected (v : VInterface) (h : 0 < v.generics) : validateInterface v ≠ [] :=
  List.ne_nil_of_mem (a := .ifaceGenerics) <| by
    simp only [validateInterface, List.mem_append, List.mem_singleton, if_pos h, true_or]

theorem iface_missing_error_rejected (v : VInterface) (h : v.hasError = false) : validateInterface v ≠ [] :=
  List.ne_nil_of_mem (a := .ifaceNoError) <| by
    simp only [validateInterface, List.mem_append, List.mem_singleton, h, Bool.not_false, if_true, true_or, or_true]

theorem unknownWord_mem_badWords {ws : List AttrWord} {w : AttrWord} (hw : w ∈ ws) (hbad : wordOk w = false) :
    .unknownWord w.parser w.word ∈ badWords ws :=
  List.mem_map_of_mem (List.mem_filter.mpr ⟨hw, by rw [hbad]; rfl⟩)

/-- an attribute argument outside the vocabulary of its parser is rejected (every parser, every position) -/
theorem unknown_word_rejected_contract (v : VContract) (w : AttrWord) (hw : w ∈ v.words) (hbad : wordOk w = false) :
    validateContract v ≠ [] :=
  List.ne_nil_of_mem (a := .unknownWord w.parser w.word) <| by
    simp only [validateContract, List.mem_append, unknownWord_mem_badWords hw hbad, true_or, or_true]

theorem unknown_word_rejected_interface (v : VInterface) (w : AttrWord) (hw : w ∈ v.words) (hbad : wordOk w = false) :
    validateInterface v ≠ [] :=
  List.ne_nil_of_mem (a := .unknownWord w.parser w.word) <| by
    simp only [validateInterface, List.mem_append, unknownWord_mem_badWords hw hbad, true_or, or_true]

theorem too_few_concrete_types_rejected (c : Contract) (given : Nat) (ws : List AttrWord) (h : given ≠ c.generics.length) :
    validateEntryPoints c given ws ≠ [] :=
  List.ne_nil_of_mem (a := .epGenericsCount) <| by
    simp only [validateEntryPoints, List.mem_append, List.mem_singleton, if_pos (bne_iff_ne.mpr h), true_or]

theorem upsert_diags_prefix (b : Bool) (tyEq : Ty → Ty → Bool) (acc : List Entry × List Diag) (mh : Method × Name) :
    acc.2 <+: (upsert b tyEq acc mh).2 := by
  obtain ⟨m, h⟩ := mh
  cases hf : acc.1.find? (·.id == replyIdOf h) with
  | none => rw [upsert_new hf]; exact List.prefix_append _ _
  | some e =>
    cases hex : e.handlers.any (fun p => excludes p.2 (replyOnOfMethod m)) with
    | true => rw [upsert_excluded hf hex]; exact List.prefix_append _ _
    | false => rw [upsert_merged hf hex]; exact List.prefix_append _ _

theorem foldl_diags_prefix (b : Bool) (tyEq : Ty → Ty → Bool) : ∀ (l : List (Method × Name)) (acc : List Entry × List Diag),
    acc.2 <+: (l.foldl (upsert b tyEq) acc).2
  | [], _ => List.prefix_rfl
  | x :: r, acc => (upsert_diags_prefix b tyEq acc x).trans (foldl_diags_prefix b tyEq r _)

theorem foldl_diags_mono (b : Bool) (tyEq : Ty → Ty → Bool) : ∀ (l : List (Method × Name)) (acc : List Entry × List Diag),
    ∃ extra, (l.foldl (upsert b tyEq) acc).2 = acc.2 ++ extra :=
  fun l acc => (foldl_diags_prefix b tyEq l acc).imp fun _ => Eq.symm

theorem step_diags_kept (b : Bool) (tyEq : Ty → Ty → Bool) (pre post : List (Method × Name)) (x : Method × Name)
    (acc : List Entry × List Diag) :
    (upsert b tyEq (pre.foldl (upsert b tyEq) acc) x).2 <+: ((pre ++ x :: post).foldl (upsert b tyEq) acc).2 := by
  rw [List.foldl_append, List.foldl_cons]
  exact foldl_diags_prefix b tyEq post _

/-- **two methods claiming the same reply name and outcome** (or one of them `always`): whenever the fold meets
a pair whose id is already in the table with an excluding outcome, the program is rejected -/
theorem duplicate_outcome_rejected (b : Bool) (tyEq : Ty → Ty → Bool) (pre post : List (Method × Name)) (m : Method) (h : Name)
    (e : Entry)
    (hfind : ((pre.foldl (upsert b tyEq) ([], [])).1).find? (fun x => x.id == replyIdOf h) = some e)
    (hex : e.handlers.any (fun p => excludes p.2 (replyOnOfMethod m)) = true) :
    ((pre ++ (m, h) :: post).foldl (upsert b tyEq) ([], [])).2 ≠ [] :=
  List.ne_nil_of_mem (a := .duplicated (replyIdOf h)) <| (step_diags_kept b tyEq pre post (m, h) _).subset <| by
    rw [upsert_excluded hfind hex]
    exact List.mem_append_right _ (List.mem_singleton_self _)

/-- a method whose own shape is wrong (no payload parameter, parameters around a raw payload, misplaced
`sv::data`) raises its diagnostic when it opens a new table entry -/
theorem new_entry_diag_kept (b : Bool) (tyEq : Ty → Ty → Bool) (pre post : List (Method × Name)) (m : Method) (h : Name)
    (hnone : ((pre.foldl (upsert b tyEq) ([], [])).1).find? (fun x => x.id == replyIdOf h) = none)
    (hbad : (newEntry m h).2 ≠ []) :
    ((pre ++ (m, h) :: post).foldl (upsert b tyEq) ([], [])).2 ≠ [] := by
  refine (step_diags_kept b tyEq pre post (m, h) _).ne_nil ?_
  rw [upsert_new hnone]
  exact List.append_ne_nil_of_right_ne_nil _ hbad

theorem missing_payload_diag (m : Method) (h : Name) (hs : replyOnOfMethod m ≠ .success) (ha : m.args.length ≤ 1) :
    (newEntry m h).2 ≠ [] :=
  -- outside `success` the first parameter is the error text / the result, so no payload parameter is left
  List.ne_nil_of_mem (a := .missingPayload (Casing.toString m.name)) <| by
    simp only [newEntry, bne_iff_ne.mpr hs, Bool.or_true, if_true, List.drop_eq_nil_iff.mpr ha, List.isEmpty_nil,
      List.mem_append, List.mem_singleton, true_or, or_true]

/-- `sv::data` outside a success method -/
theorem data_wrong_scenario_diag (m : Method) (i : Nat) (hi : findIdx? (fun a : Arg => a.data.isSome) m.args = some i)
    (hs : replyOnOfMethod m ≠ .success) : (dataField m).2 ≠ [] := by
  simp only [dataField, hi, beq_eq_false_iff_ne.mpr hs]
  exact List.cons_ne_nil _ _

/-- `sv::data` not on the first parameter -/
theorem data_wrong_place_diag (m : Method) (i : Nat) (hi : findIdx? (fun a : Arg => a.data.isSome) m.args = some (i + 1))
    (hs : replyOnOfMethod m = .success) : (dataField m).2 ≠ [] := by
  simp only [dataField, hi, hs, beq_self_eq_true, if_true, Nat.succ_ne_zero, if_false]
  exact List.cons_ne_nil _ _

end C18
