import Sylvia.Lemmas.Sort
import Sylvia.Lemmas.Reply
import Sylvia.Lemmas.SerdeRoundTrip
import Sylvia.Model.EntryPoints
import Sylvia.Model.Validate
/-!
# C14 — behaviour does not depend on the order of declarations

`l.Perm l'` = "`l'` is a reordering of `l`". The theorems say which observable artefacts of the model are
invariant under reordering handler methods, override attributes and the methods merged into one reply
entry. (Numeric reply ids and the order of type parameters of generic message types are positional and
excluded by the property / recorded in DESIGN.)
-/
namespace C14
open Sylvia Sylvia.Gen Sylvia.Reply Sylvia.Serde

theorem variantsOf_perm (k : Kind) {ms ms' : List Method} (h : ms.Perm ms') : (variantsOf k ms).Perm (variantsOf k ms') :=
  h.filter _

/-- **routing lists** are identical -/
theorem nameList_perm (k : Kind) {ms ms' : List Method} (h : ms.Perm ms') : nameList k ms = nameList k ms' :=
  sortStrings_perm_eq ((variantsOf_perm k h).map _)

/-- **wire format**: the same set of message names with the same fields -/
theorem variantSpecs_perm (k : Kind) {ms ms' : List Method} (h : ms.Perm ms') :
    ((variantSpecs k ms).map fun v => (v.wire, v.fields.map (·.name))).Perm ((variantSpecs k ms').map fun v => (v.wire, v.fields.map (·.name))) := by
  unfold variantSpecs
  exact ((variantsOf_perm k h).map _).map _

/-- **dispatch targets**: with distinct wire names a message name selects the same variant whatever the order -/
theorem dispatch_target_perm {vs vs' : List VariantSpec} (hp : vs.Perm vs') (hnd : (vs.map (·.wire)).Nodup)
    (k : String) (i : Nat) (v : VariantSpec) (h : findVariant vs k = some (i, v)) :
    ∃ j, findVariant vs' k = some (j, v) := by
  obtain ⟨hv, rfl⟩ := findVariant_some h
  obtain ⟨j, hj⟩ := List.getElem?_of_mem (hp.mem_iff.mp (List.mem_of_getElem? hv))
  exact ⟨j, findVariant_at vs' j v hj ((hp.map _).nodup_iff.mp hnd)⟩

/-- **set of entry points**: unchanged by reordering the handler methods and the override attributes -/
theorem entryPoints_perm (c c' : Contract) (hm : c.methods.Perm c'.methods) (ho : c.overrides.Perm c'.overrides) :
    entryPoints c = entryPoints c' := by
  have hh (k : Kind) : hasHandler c k = hasHandler c' k := hm.any_eq
  have hov (k : Kind) : (overriddenKinds c).contains k = (overriddenKinds c').contains k := (ho.filterMap _).contains_eq
  simp only [entryPoints, hh, hov]

/-- **reply trigger** of an entry does not depend on the order in which its methods were merged -/
theorem trigger_perm (e e' : Entry) (h : e.handlers.Perm e'.handlers) : cwReplyOn e = cwReplyOn e' := by
  unfold cwReplyOn
  rw [h.any_eq, h.any_eq, h.any_eq]

theorem compatible_perm {hs hs' : List (Name × ReplyOn)} (h : hs.Perm hs') (hc : Compatible hs) : Compatible hs' :=
  h.pairwise hc fun hab => (excludes_symm _ _).trans hab

theorem find_serving_perm {hs hs' : List (Name × ReplyOn)} (h : hs.Perm hs') (hc : Compatible hs) (o : ReplyOn) :
    hs.find? (fun p => p.2 == o || p.2 == .always) = hs'.find? (fun p => p.2 == o || p.2 == .always) := by
  cases hf : hs.find? (fun p => p.2 == o || p.2 == .always) with
  | none => exact (List.find?_eq_none.mpr fun x hx => List.find?_eq_none.mp hf x (h.mem_iff.mpr hx)).symm
  | some x =>
    have hx := List.find?_some hf
    exact (find_serving (compatible_perm h hc) o (h.mem_iff.mp (List.mem_of_find?_eq_some hf)) hx).symm

/-- **reply routing** does not depend on that order either: the method found for a success (resp. failure) is the
one *declared* for it, wherever it sits in the entry -/
theorem reply_routing_perm {hs hs' : List (Name × ReplyOn)} (h : hs.Perm hs') (hc : Compatible hs) :
    hs.find? (fun p => p.2 == .success || p.2 == .always) = hs'.find? (fun p => p.2 == .success || p.2 == .always) ∧
    hs.find? (fun p => p.2 == .error || p.2 == .always) = hs'.find? (fun p => p.2 == .error || p.2 == .always) :=
  ⟨find_serving_perm h hc .success, find_serving_perm h hc .error⟩

/-- **acceptance** (structural rules): the counts the validations look at are order-independent -/
theorem countKind_perm (k : Kind) {ms ms' : List Method} (h : ms.Perm ms') : Validate.countKind k ms = Validate.countKind k ms' :=
  (variantsOf_perm k h).length_eq

end C14
