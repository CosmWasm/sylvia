import Sylvia.Model.Runtime
/-!
# C20 — a stored remote handle has a stable, type-independent encoding
-/
namespace C20
open Sylvia Sylvia.Runtime Sylvia.Serde

/-- the encoding is the single-member object `{"addr": <address>}` … -/
theorem remote_encode {ι : Type} (r : Remote ι) : r.encode = .obj [("addr", .str r.addr)] := rfl

/-- … whatever the type parameter and whether the address is owned or borrowed -/
theorem remote_encode_independent {ι κ : Type} (a : String) (o o' : Ownership) :
    (({ addr := a, own := o } : Remote ι)).encode = (({ addr := a, own := o' } : Remote κ)).encode := rfl

theorem decode_encode {ι κ : Type} (r : Remote ι) : Remote.decode κ r.encode = some { addr := r.addr } := by
  simp [Remote.encode, Remote.decode, decodeStruct, decodeFields, hasDupField, remoteFields, decodeField,
    Json.get?, decodeVal]

/-- a handle stored under one type parameter is read back under any other -/
theorem remote_cross_type {ι κ : Type} (r : Remote ι) : (Remote.decode κ r.encode).map (·.addr) = some r.addr := by
  rw [decode_encode]; rfl

/-- decoding that JSON gives back a handle to the same address, for every address string -/
theorem remote_roundtrip {ι : Type} (r : Remote ι) : (Remote.decode ι r.encode).map (·.addr) = some r.addr :=
  remote_cross_type r

theorem remote_schema_name (ι κ : Type) : Remote.schemaName ι = Remote.schemaName κ := rfl

end C20
