import Sylvia.Extracted.StripFns
import Sylvia.Model.Strip
/-!
# `StripInput`, on the regenerated code of `sylvia-derive/src/fold.rs` (C13)

`Extracted.StripFns.*` is written by the function translator from the current source on every run: `remove_input_attr` and the
four overridden folds of `impl Fold for StripInput`. syn's tree is the view of `RustExtern.Syn` (attribute lists plus an opaque
rest at every level); `SylviaAttribute::new` — which attributes are the framework's own — is a parameter here and is instantiated
below with the regenerated attribute table. The theorems say what the pass-through theorems of `Thm/C13.lean` say about the model
`Strip.strip`, but about the code: for **every** item, every number of methods and parameters and every attribute placement, the
fold returns normally; it removes exactly the framework's attributes from the item and from every method, empties the attribute
lists of the parameters (receiver included) of exactly the methods that carry `#[sv::msg]`, and leaves every `rest` — visibility,
names, generics, types, bodies — as it was. `refines_model` then identifies the regenerated fold with `Strip.strip`.
-/
namespace StripFn
open RustSem RustExtern RustExtern.Syn Extracted.StripFns

variable {Attr R SA : Type} [DecidableEq SA]

def clearArg : FnArg Attr R → FnArg Attr R
  | .Receiver r => .Receiver { r with attrs := [] }
  | .Typed t => .Typed { t with attrs := [] }

theorem remove_input_attr_eq (svMsg : SA) (svNew : Attr → Option SA) (inputs : List (FnArg Attr R)) :
    remove_input_attr svMsg svNew inputs = .ok (inputs.map clearArg) := by
  unfold remove_input_attr
  rw [mapRes_ok (g := clearArg)]
  · rfl
  · -- a parameter without attributes is left as it is, which is `clearArg` of it
    rintro (⟨⟨_ | _, _⟩⟩ | ⟨⟨_ | _, _⟩⟩) <;> rfl

/-- what the fold makes of one method: the code's own reading of "is a handler" and "is a framework attribute" -/
def stripImplFn (svMsg : SA) (svNew : Attr → Option SA) (i : ImplItemFn Attr R) : ImplItemFn Attr R :=
  { i with attrs := i.attrs.filter (fun a => (svNew a).isNone),
           sig := { i.sig with inputs := if i.attrs.any (fun a => svNew a == some svMsg) then i.sig.inputs.map clearArg else i.sig.inputs } }

def stripTraitFn (svMsg : SA) (svNew : Attr → Option SA) (i : TraitItemFn Attr R) : TraitItemFn Attr R :=
  { i with attrs := i.attrs.filter (fun a => (svNew a).isNone),
           sig := { i.sig with inputs := if i.attrs.any (fun a => svNew a == some svMsg) then i.sig.inputs.map clearArg else i.sig.inputs } }

theorem fold_impl_item_fn_eq (svMsg : SA) (svNew : Attr → Option SA) (s : StripInput) (i : ImplItemFn Attr R) :
    StripInput.fold_impl_item_fn svMsg svNew s i = .ok (stripImplFn svMsg svNew i) := by
  unfold StripInput.fold_impl_item_fn stripImplFn
  simp only [remove_input_attr_eq, bind_ok, Syn.fold_impl_item_fn]
  split <;> rfl

theorem fold_trait_item_fn_eq (svMsg : SA) (svNew : Attr → Option SA) (s : StripInput) (i : TraitItemFn Attr R) :
    StripInput.fold_trait_item_fn svMsg svNew s i = .ok (stripTraitFn svMsg svNew i) := by
  unfold StripInput.fold_trait_item_fn stripTraitFn
  simp only [remove_input_attr_eq, bind_ok, Syn.fold_trait_item_fn]
  split <;> rfl

/-- **the contract macro's fold**, for every impl block -/
theorem fold_item_impl_eq (svMsg : SA) (svNew : Attr → Option SA) (s : StripInput) (i : ItemImpl Attr R) :
    StripInput.fold_item_impl svMsg svNew s i
      = .ok { i with attrs := i.attrs.filter (fun a => (svNew a).isNone), items := i.items.map (stripImplFn svMsg svNew) } := by
  unfold StripInput.fold_item_impl Syn.fold_item_impl
  simp only [mapRes_ok _ _ (fold_impl_item_fn_eq svMsg svNew s), bind_ok]

/-- **the interface macro's fold**, for every trait -/
theorem fold_item_trait_eq (svMsg : SA) (svNew : Attr → Option SA) (s : StripInput) (i : ItemTrait Attr R) :
    StripInput.fold_item_trait svMsg svNew s i
      = .ok { i with attrs := i.attrs.filter (fun a => (svNew a).isNone), items := i.items.map (stripTraitFn svMsg svNew) } := by
  unfold StripInput.fold_item_trait Syn.fold_item_trait
  simp only [mapRes_ok _ _ (fold_trait_item_fn_eq svMsg svNew s), bind_ok]

/-- everything but attributes is passed through: rest of the item, of every method, of every signature and parameter -/
theorem rests_intact (svMsg : SA) (svNew : Attr → Option SA) (i : ImplItemFn Attr R) :
    (stripImplFn svMsg svNew i).rest = i.rest ∧ (stripImplFn svMsg svNew i).sig.rest = i.sig.rest ∧
    (stripImplFn svMsg svNew i).sig.inputs.length = i.sig.inputs.length := by
  refine ⟨rfl, rfl, ?_⟩
  rw [stripImplFn, apply_ite List.length, List.length_map, ite_self]

open Sylvia.Strip in
/-- `SylviaAttribute::new` read off the regenerated attribute table; `true` stands for `SylviaAttribute::Msg` -/
def svNewTable (a : Sylvia.Strip.AttrS) : Option Bool :=
  if Sylvia.Strip.isFramework a then some (Sylvia.Strip.isMsgAttr a) else none

def absArg : FnArg Sylvia.Strip.AttrS String → Sylvia.Strip.ParamS
  | .Receiver r => { attrs := r.attrs, text := r.rest }
  | .Typed t => { attrs := t.attrs, text := t.rest }

def absFn (i : ImplItemFn Sylvia.Strip.AttrS String) : Sylvia.Strip.MethodS :=
  { attrs := i.attrs, params := i.sig.inputs.map absArg, rest := i.rest ++ i.sig.rest }

def absImpl (i : ItemImpl Sylvia.Strip.AttrS String) : Sylvia.Strip.ItemS :=
  { attrs := i.attrs, methods := i.items.map absFn, rest := i.rest }

theorem absArg_clear : absArg ∘ clearArg = (fun p => { p with attrs := [] }) ∘ absArg :=
  funext fun a => by cases a <;> rfl

theorem isNone_svNewTable (a : Sylvia.Strip.AttrS) : (svNewTable a).isNone = !Sylvia.Strip.isFramework a := by
  unfold svNewTable; cases Sylvia.Strip.isFramework a <;> rfl

theorem handler_svNewTable (h : ∀ a, Sylvia.Strip.isMsgAttr a = true → Sylvia.Strip.isFramework a = true) (a : Sylvia.Strip.AttrS) :
    (svNewTable a == some true) = Sylvia.Strip.isMsgAttr a := by
  unfold svNewTable
  split
  · rw [Option.some_beq_some, beq_true]
  · next hf => rw [Bool.eq_false_iff.mpr fun hm => hf (h a hm)]; rfl

theorem absFn_strip (h : ∀ a, Sylvia.Strip.isMsgAttr a = true → Sylvia.Strip.isFramework a = true) (i : ImplItemFn Sylvia.Strip.AttrS String) :
    absFn (stripImplFn true svNewTable i) = Sylvia.Strip.stripMethod (absFn i) := by
  simp only [absFn, stripImplFn, Sylvia.Strip.stripMethod, Sylvia.Strip.isHandler, handler_svNewTable h, isNone_svNewTable,
    apply_ite (List.map absArg), List.map_map, absArg_clear]

/-- **refinement.** The regenerated fold of the contract macro is the model's `strip`, on every impl block. -/
theorem refines_model (h : ∀ a, Sylvia.Strip.isMsgAttr a = true → Sylvia.Strip.isFramework a = true)
    (s : StripInput) (i : ItemImpl Sylvia.Strip.AttrS String) :
    ∃ out, StripInput.fold_item_impl true svNewTable s i = .ok out ∧ absImpl out = Sylvia.Strip.strip (absImpl i) := by
  refine ⟨_, fold_item_impl_eq true svNewTable s i, ?_⟩
  simp only [absImpl, Sylvia.Strip.strip, isNone_svNewTable, List.map_map, Function.comp_def, absFn_strip h]

/-- non-vacuity: a handler with an attribute on its receiver and one on an argument, next to a helper method -/
example : StripInput.fold_item_impl (R := String) (Attr := Nat) (1 : Nat) (fun a => if a < 10 then some a else none) ⟨⟩
    { attrs := [3, 20], rest := "impl Ct",
      items := [{ attrs := [1, 30], rest := "fn exec", sig := { rest := "-> R", inputs := [.Receiver ⟨[40], "&self"⟩, .Typed ⟨[2, 50], "a: u32"⟩] } },
                { attrs := [30], rest := "fn helper", sig := { rest := "", inputs := [.Typed ⟨[50], "x: u8"⟩] } }] }
    = .ok { attrs := [20], rest := "impl Ct",
            items := [{ attrs := [30], rest := "fn exec", sig := { rest := "-> R", inputs := [.Receiver ⟨[], "&self"⟩, .Typed ⟨[], "a: u32"⟩] } },
                      { attrs := [30], rest := "fn helper", sig := { rest := "", inputs := [.Typed ⟨[50], "x: u8"⟩] } }] } := rfl

end StripFn
