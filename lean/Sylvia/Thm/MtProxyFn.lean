import Sylvia.Extracted.MtProxyFns
/-!
# The exec / migrate proxies of the multitest helpers, on the regenerated code of `sylvia/src/multitest.rs` (C12)

`Extracted.MtProxyFns.*` is written by the function translator from the current source on every run: `downcast_error`,
`ExecProxy::{new, with_funds, call}`, `MigrateProxy::{new, call}`. The chain's two operations are the parameter `chain`. The theorems
say that a proxy call *is* the corresponding raw operation of the chain — same contract address, same message, the funds set last
on the builder exactly as given (not reordered, filtered or merged), same sender, same new code id — and that what comes back is the
chain's own result with the error converted: the contract's error type as it is, a `StdError` through `From`, anything else (a
refusal by the chain itself) as a generic `StdError` carrying its text; nothing panics.
-/
namespace MtProxyFn
open RustSem RustExtern RustExtern.Mt Extracted.MtProxyFns

variable {App Msg Coin Resp Error : Type}

/-- the documented conversion of what the chain reports -/
def conv (fromStd : StdError → Error) : AnyErr Error → Error
  | .own e => e
  | .std e => fromStd e
  | .other t => fromStd (.generic_err t)

/-- **`downcast_error` is total and is `conv`** (the `unwrap`s after `is::<T>()` never panic) -/
theorem downcast_error_eq (chain : Chain App Msg Coin Resp Error) (fromStd : StdError → Error) (err : AnyErr Error) :
    downcast_error chain fromStd err = .ok (conv fromStd err) := by
  cases err <;> rfl

def mapErr {α ε ε' : Type} (f : ε → ε') : Except ε α → Except ε' α
  | .ok a => .ok a
  | .error e => .error (f e)

theorem mapErrRes_total {α ε ε' : Type} (f : ε → Res ε') (g : ε → ε') (h : ∀ e, f e = .ok (g e)) (r : Except ε α) :
    mapErrRes f r = .ok (mapErr g r) := by
  cases r <;> simp [mapErrRes, mapErr, h]

def withAll (chain : Chain App Msg Coin Resp Error) (fromStd : StdError → Error) :
    ExecProxy App Msg Coin → List (List Coin) → Res (ExecProxy App Msg Coin)
  | b, [] => .ok b
  | b, f :: r => (ExecProxy.with_funds chain fromStd b f).bind fun b' => withAll chain fromStd b' r

theorem withAll_eq (chain : Chain App Msg Coin Resp Error) (fromStd : StdError → Error) (b : ExecProxy App Msg Coin) (fs : List (List Coin)) :
    withAll chain fromStd b fs = .ok { b with funds := (fs.getLast?).getD b.funds } := by
  induction fs generalizing b with
  | nil => rfl
  | cons f r ih => exact (ih _).trans (by rw [List.getLast?_cons]; rfl)

/-- **C12, exec.** For every chain, contract address, message, sequence of `with_funds` calls and sender: the proxy call is the raw
`execute_contract` with exactly those values, its error converted by `conv`. -/
theorem exec_call_eq (chain : Chain App Msg Coin Resp Error) (fromStd : StdError → Error)
    (addr : String) (msg : Msg) (app : App) (fs : List (List Coin)) (sender : String) :
    ((ExecProxy.new chain fromStd addr msg app).bind fun p => (withAll chain fromStd p fs).bind fun p' => ExecProxy.call chain fromStd p' sender)
      = .ok (mapErr (conv fromStd) (chain.execute_contract app sender addr msg ((fs.getLast?).getD []))) := by
  simp only [ExecProxy.new, bind_ok, withAll_eq, ExecProxy.call]
  -- the closure handed to `map_err` is the body of `downcast_error`
  exact (bind_ok_right _).trans (mapErrRes_total _ _ (downcast_error_eq chain fromStd) _)

/-- **C12, migrate.** Likewise: the raw `migrate_contract` with the same sender, address, message and new code id. -/
theorem migrate_call_eq (chain : Chain App Msg Coin Resp Error) (fromStd : StdError → Error)
    (addr : String) (msg : Msg) (app : App) (sender : String) (code : Nat) :
    ((MigrateProxy.new chain fromStd addr msg app).bind fun p => MigrateProxy.call chain fromStd p sender code)
      = .ok (mapErr (conv fromStd) (chain.migrate_contract app sender addr msg code)) := by
  simp only [MigrateProxy.new, bind_ok, MigrateProxy.call]
  exact (bind_ok_right _).trans (mapErrRes_total _ _ (downcast_error_eq chain fromStd) _)

/-- non-vacuity: a chain that refuses with its own error text; the proxy hands back a generic `StdError` with that text, funds as given -/
def demoChain : Chain Unit Nat Nat Unit StdError := ⟨fun _ _ _ _ fs => .error (.other (toString fs)), fun _ _ _ _ _ => .ok ()⟩
example : ((ExecProxy.new demoChain id "c" 7 ()).bind fun p =>
      (ExecProxy.with_funds demoChain id p [3, 0, 1]).bind fun p' => ExecProxy.call demoChain id p' "s")
    = .ok (.error (StdError.generic_err "[3, 0, 1]")) := rfl

end MtProxyFn
