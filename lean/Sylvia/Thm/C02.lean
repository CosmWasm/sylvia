import Sylvia.Thm.C01
import Sylvia.Thm.C03
import Sylvia.Lemmas.Sort
import Sylvia.Model.Dispatch
import Sylvia.Lemmas.Gen
/-!
# C02 — dispatch runs exactly the annotated handler with the sent arguments

`Dispatch.route` models "decode the document at the entry point of kind `k`, then `dispatch`": its result
is either a decoding error or **one** `Call` (handler id, kind, argument list, context) — the type itself
has no room for a second call. Handlers are not interpreted here: the theorems are about which call is
built, for every program and all argument values; what the caller gets back from that call
(`showOutcome`) is specified by `error_conversion` / definitional unfolding and compared with the real
generated code by the `disp` / `entry` streams (echo handlers, both outcomes).
-/
namespace C02
open Sylvia Sylvia.Gen Sylvia.Dispatch Sylvia.Serde

theorem map_eq_map_zip {α β γ : Type} (g : α → γ) (h : α × β → γ) (as : List α) (bs : List β)
    (hl : as.length = bs.length) (hq : ∀ q ∈ as.zip bs, g q.1 = h q) : as.map g = (as.zip bs).map h := by
  conv => lhs; rw [← List.map_fst_zip (l₂ := bs) (Nat.le_of_eq hl), List.map_map]
  exact List.map_congr_left hq

/-- the positional call built by the arm passes every field value to the parameter of the same name -/
theorem bindArgs_pairUp (m : Method) (cs : List Json) (hlen : m.args.length = cs.length)
    (hnd : (m.args.map (·.name)).Nodup) :
    bindArgs m (pairUp (m.args.map fieldSpec) cs) = pairUp (m.args.map fieldSpec) cs := by
  unfold bindArgs
  rw [map_eq_map_zip _ (fun q : Arg × Json => (q.1.name, q.2)) m.args cs hlen]
  · simp [pairUp, List.zip_map_left, fieldSpec]
  · intro q hq
    have : Json.get? (pairUp (m.args.map fieldSpec) cs) q.1.name = some q.2 :=
      get?_pairUp (m.args.map fieldSpec) cs (by simpa using hlen) ((names_fieldSpec m.args).symm ▸ hnd)
        (fieldSpec q.1, q.2) (by rw [List.zip_map_left]; exact List.mem_map.mpr ⟨q, hq, rfl⟩)
    simp [this]

theorem parts_variants (k : Kind) (p : Program) :
    (parts k p).map (·.variants) = (partMethods k p).map (·.map variantSpec) := by
  simp [parts, partMethods, variantSpecs, Function.comp_def]

theorem parts_getElem (k : Kind) (p : Program) (i : Nat) (ms : List Method) (h : (partMethods k p)[i]? = some ms) :
    ∃ ps, (parts k p)[i]? = some ps ∧ ps.variants = ms.map variantSpec := by
  have := congrArg (fun l => l[i]?) (parts_variants k p)
  simp only [List.getElem?_map, h, Option.map_some] at this
  cases hp : (parts k p)[i]? with
  | none => simp [hp] at this
  | some ps => exact ⟨ps, rfl, by simpa [hp] using this⟩

/-- **C02, enum kinds.** For every program, every part `i`, every handler `m` of kind `k` in it and all
canonical argument values: sending the message `m` serialises to reaches exactly `m` of part `i`, with
every value bound to the parameter of the same name and the caller's context unchanged. -/
theorem dispatch_exact (p : Program) (k : Kind) (hk : k = .exec ∨ k = .query ∨ k = .sudo)
    (hf : C03.ListsFaithful (parts k p)) (hd : C03.ListsDisjoint (parts k p))
    (i : Nat) (ms : List Method) (hms : (partMethods k p)[i]? = some ms)
    (vi : Nat) (m : Method) (hm : ms[vi]? = some m)
    (hwires : ((ms.map variantSpec).map (·.wire)).Nodup)
    (hargs : (m.args.map (·.name)).Nodup) (hwf : ∀ a ∈ m.args, WFTy (fieldSpec a).ty)
    (cs : List Json) (hlen : m.args.length = cs.length)
    (hcan : ∀ q ∈ (m.args.map fieldSpec).zip cs, decodeVal false q.1.ty q.2 = some q.2)
    (c : CtxIn) :
    route p k (encodeEnum (ms.map variantSpec) vi (pairUp (m.args.map fieldSpec) cs)) c =
      .ran { handler := partId p k i ++ "." ++ Casing.toString m.name, kind := k,
             args := pairUp (m.args.map fieldSpec) cs, ctx := c } m i := by
  obtain ⟨ps, hps, hvar⟩ := parts_getElem k p i ms hms
  have hv : ps.variants[vi]? = some (variantSpec m) := by rw [hvar]; simp [hm]
  have hw := C03.wrapper_accepts_encoded (parts k p) hf hd i ps hps vi (variantSpec m) hv
    (by rw [hvar]; exact hwires) cs (by simpa [variantSpec] using hlen)
    ((names_fieldSpec m.args).symm ▸ hargs)
    (by
      intro f hfm
      simp only [variantSpec, List.mem_map] at hfm
      obtain ⟨a, ha, rfl⟩ := hfm
      exact hwf a ha)
    (by simpa [variantSpec] using hcan)
  rw [hvar] at hw
  have hfields : (variantSpec m).fields = m.args.map fieldSpec := rfl
  rw [hfields] at hw
  have hcall : callOfWrapped p k i vi (pairUp (m.args.map fieldSpec) cs) c =
      some ({ handler := partId p k i ++ "." ++ Casing.toString m.name, kind := k,
              args := pairUp (m.args.map fieldSpec) cs, ctx := c }, m) := by
    unfold callOfWrapped
    simp only [hms, hm, bindArgs_pairUp m cs hlen hargs]
  rcases hk with rfl | rfl | rfl <;> simp only [route, hw, hcall]

/-- **C02, struct kinds.** instantiate / migrate: the flat object reaches the single handler of that kind. -/
theorem dispatch_exact_struct (p : Program) (k : Kind) (hk : k = .instantiate ∨ k = .migrate)
    (m : Method) (rest : List Method) (hv : variantsOf k p.contract.methods = m :: rest)
    (hargs : (m.args.map (·.name)).Nodup)
    (cs : List Json) (hlen : m.args.length = cs.length)
    (hcan : ∀ q ∈ (m.args.map fieldSpec).zip cs, decodeVal false q.1.ty q.2 = some q.2)
    (c : CtxIn) :
    route p k (.obj (pairUp (m.args.map fieldSpec) cs)) c =
      .ran { handler := "ct." ++ Casing.toString m.name, kind := k,
             args := pairUp (m.args.map fieldSpec) cs, ctx := c } m p.contract.ifaces.length := by
  unfold route
  rcases hk with rfl | rfl <;> simp only [hv, C01.struct_decode_encode m hargs cs hlen hcan, bindArgs_pairUp m cs hlen hargs]

/-- **Outcome: error conversion.** A failing handler's error reaches the caller converted into the contract's
declared error type: untouched when the contract declares none (StdError) or the handler already returns
the contract's type, wrapped through `From<StdError>` when the handler returns `StdError`. -/
theorem error_conversion (hid : String) :
    failText false .std hid = "Generic error: fail:" ++ hid ∧
    failText true .std hid = "CE::Std(Generic error: fail:" ++ hid ++ ")" ∧
    failText true .contract hid = "CE::Custom(fail:" ++ hid ++ ")" ∧
    failText true .self hid = "CE::Custom(fail:" ++ hid ++ ")" :=
  ⟨rfl, rfl, rfl, rfl⟩

/-- the published lists of a generated program are its wire names, provided the source derives them with
serde's rule (obligation `Obl.published_rule_is_wire_rule`) -/
theorem parts_faithful (k : Kind) (p : Program) (h : Extracted.publishedRule = 1) : C03.ListsFaithful (parts k p) := by
  intro ps hps key
  simp only [parts, List.mem_append, List.mem_map, List.mem_singleton] at hps
  rcases hps with ⟨r, _, rfl⟩ | rfl <;>
    simp only [mem_nameList h, variantSpecs, List.map_map, List.mem_map, mem_variantsOf, Function.comp_def, variantSpec, and_assoc]

end C02
