import Sylvia.Extracted.RetTypeFns
/-!
# `extract_return_type`, on the regenerated code of `sylvia-derive/src/utils.rs` (C16)

The type a query's signature returns on success is what `#[returns(..)]` of the generated `QueryMsg` — and hence the query-response
table — names when no `resp=` is given. `Extracted.RetTypeFns.extract_return_type` is rewritten from the current source on every
run; `emit_error!` is a diagnostic appended to the list returned next to the value. The theorems: for **every** return type whose
*last* path segment carries angle-bracketed arguments the first of which is a path type, the function returns that path — whatever
the leading segments (`std::result::Result<..>`, `sylvia::cw_std::StdResult<..>`), whatever the other arguments — and it complains
exactly when the segment is named neither `Result` nor `StdResult`; it never looks at anything else. On every other shape it panics
(`unreachable!` / `assert!`), which is the totalisation the code has.
-/
namespace RetTypeFn
open RustSem RustExtern.SynTy Extracted.RetTypeFns

def aliasDiag : String :=
  "Neither Result nor StdResult found in return type. You might be using aliased return type. Please use #[sv::msg(return_type=<your_return_type>)]"

theorem extract_last (segs : List PathSegment) (name : String) (p : Path) (more : List GenericArgument)
    (h : segs.getLast? = some (.mk name (.AngleBracketed (.mk (.Type (.Path (.mk p)) :: more))))) :
    extract_return_type (.Type () (.Path (.mk (.mk segs))))
      = .ok (p, if name != "Result" && name != "StdResult" then [aliasDiag] else []) := by
  cases segs with
  | nil => cases h
  | cons s r =>
    -- both branches of the name test return `p`, with and without the diagnostic
    rw [apply_ite (fun d => Res.ok (p, d)), extract_return_type]
    dsimp only [TypePath.path, Path.segments, List.isEmpty_cons]
    rw [h]
    rfl

/-- **C16, the signature's success type.** `pre` are the leading path segments, `name` the last segment's identifier, `p` the path of
its first type argument, `more` the remaining arguments. -/
theorem extract_spec (pre : List PathSegment) (name : String) (p : Path) (more : List GenericArgument) :
    extract_return_type (.Type () (.Path (.mk (.mk (pre ++ [.mk name (.AngleBracketed (.mk (.Type (.Path (.mk p)) :: more)))])))))
      = .ok (p, if name != "Result" && name != "StdResult" then [aliasDiag] else []) :=
  extract_last _ name p more List.getLast?_concat

/-- for the two names the property speaks of there is no diagnostic, with or without a path in front -/
theorem extract_result (pre : List PathSegment) (p : Path) (more : List GenericArgument) :
    extract_return_type (.Type () (.Path (.mk (.mk (pre ++ [.mk "Result" (.AngleBracketed (.mk (.Type (.Path (.mk p)) :: more)))]))))) = .ok (p, []) ∧
    extract_return_type (.Type () (.Path (.mk (.mk (pre ++ [.mk "StdResult" (.AngleBracketed (.mk (.Type (.Path (.mk p)) :: more)))]))))) = .ok (p, []) := by
  simp [extract_spec]

/-- a function without a return type is outside the domain (the code panics; the macros report such handlers before) -/
theorem extract_default : extract_return_type .Default = .panic := rfl

/-- non-vacuity: `sylvia::cw_std::StdResult<CountResponse>` (D23: the first segment used to be read) -/
example : extract_return_type (.Type () (.Path (.mk (.mk [.mk "sylvia" .None, .mk "cw_std" .None,
      .mk "StdResult" (.AngleBracketed (.mk [.Type (.Path (.mk (.mk [.mk "CountResponse" .None])))]))]))))
    = .ok (.mk [.mk "CountResponse" .None], []) :=
  (extract_result [.mk "sylvia" .None, .mk "cw_std" .None] _ []).2

end RetTypeFn
