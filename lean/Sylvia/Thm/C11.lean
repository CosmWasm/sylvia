import Sylvia.Model.Runtime
/-!
# C11 — bridging to chain-custom types preserves the response and the call

Statements about `Runtime.intoResponse`, for every response over the empty custom type (any number and
kind of sub-messages, attributes, events, data). `convertible` is the list of message kinds the `match`
in `IntoMsg::into_msg` has an arm for; the theorems need it to contain every non-custom kind
(`Complete`), which is an obligation discharged against the current source.
-/
namespace C11
open Sylvia Sylvia.Runtime

def Complete (convertible : List MsgKind) : Prop := ∀ k, k ≠ .custom → convertible.contains k = true

theorem intoMsg_custom {cv : List MsgKind} {m : SubMsg} (h : m.kind = .custom) : intoMsg cv m = .error .customEmpty := if_pos h

theorem intoMsg_ok {cv : List MsgKind} {m : SubMsg} (hk : m.kind ≠ .custom) (hc : cv.contains m.kind = true) : intoMsg cv m = .ok m := by
  rw [intoMsg, if_neg hk, if_pos hc]

theorem intoMsgs_eq (cv : List MsgKind) (ms : List SubMsg) (h : ∀ m ∈ ms, m.kind ≠ .custom → cv.contains m.kind = true) :
    intoMsgs cv ms = if ∃ m ∈ ms, m.kind = .custom then .error .customEmpty else .ok ms := by
  induction ms with
  | nil => simp [intoMsgs]
  | cons m r ih =>
    rw [List.forall_mem_cons] at h
    by_cases hm : m.kind = .custom
    · simp [intoMsgs, intoMsg_custom hm, hm]
    · simp only [intoMsgs, intoMsg_ok hm (h.1 hm), ih h.2, List.mem_cons, exists_eq_or_imp, hm, false_or]
      by_cases hr : ∃ x ∈ r, x.kind = .custom <;> simp only [hr, if_true, if_false]

theorem intoMsgs_ok (cv : List MsgKind) (hc : Complete cv) : ∀ ms : List SubMsg,
    (∀ m ∈ ms, m.kind ≠ .custom) → intoMsgs cv ms = .ok ms := fun ms h => by
  rw [intoMsgs_eq cv ms fun m _ hk => hc _ hk, if_neg fun ⟨m, hm, hk⟩ => h m hm hk]

theorem intoMsgs_err (cv : List MsgKind) (hc : Complete cv) : ∀ ms : List SubMsg,
    (∃ m ∈ ms, m.kind = .custom) → intoMsgs cv ms = .error .customEmpty := fun ms h => by
  rw [intoMsgs_eq cv ms fun m _ hk => hc _ hk, if_pos h]

theorem intoResponse_eq (cv : List MsgKind) (r : Response) (h : ∀ m ∈ r.messages, m.kind ≠ .custom → cv.contains m.kind = true) :
    intoResponse cv r = if ∃ m ∈ r.messages, m.kind = .custom then .error .customEmpty else .ok r := by
  rw [intoResponse, intoMsgs_eq cv _ h]
  by_cases hr : ∃ x ∈ r.messages, x.kind = .custom <;> simp only [hr, if_true, if_false]

/-- **C11.** Without a custom-typed message the response reaches the caller with every sub-message (order,
id, payload, gas limit, reply trigger, content), attribute, event and the data intact. -/
theorem into_response_ok (cv : List MsgKind) (hc : Complete cv) (r : Response)
    (h : ∀ m ∈ r.messages, m.kind ≠ .custom) : intoResponse cv r = .ok r := by
  rw [intoResponse_eq cv r fun m _ hk => hc _ hk, if_neg fun ⟨m, hm, hk⟩ => h m hm hk]

/-- **C11.** The conversion fails — with an error and no partial response — exactly when the response
contains a custom-typed message. -/
theorem into_response_err_iff (cv : List MsgKind) (hc : Complete cv) (r : Response) :
    (∃ e, intoResponse cv r = .error e) ↔ ∃ m ∈ r.messages, m.kind = .custom := by
  rw [intoResponse_eq cv r fun m _ hk => hc _ hk]
  split <;> simp [*]

/-- non-vacuity: three messages of different kinds, ids, gas limits and triggers are preserved -/
example : ∃ r : Response, r.messages.length = 3 ∧ (∀ m ∈ r.messages, m.kind ≠ .custom) ∧ intoResponse allNonCustom r = .ok r :=
  ⟨{ messages := [⟨1, "p", .bank, "x", some 5, .always⟩, ⟨2, "", .wasm, "y", none, .never⟩, ⟨3, "q", .ibc, "z", some 0, .error⟩],
     attributes := [("a", "b")], events := [("e", [("k", "v")])], data := some "d" }, rfl, by decide, rfl⟩

end C11
