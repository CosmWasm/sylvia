import Sylvia.Model.Facts
import Sylvia.Lemmas.Gen
/-!
# C15 — generated message types carry exactly the generic parameters they use

`Facts.usedGenerics` models `CheckGenerics` + `MsgVariants::new`, `Facts.filterWheres` models
`filter_wheres`. "Occurs" is the visitor's notion: a path equal to the parameter anywhere in the
(Self-stripped) type tree of an argument, or of the response type for queries.
-/
namespace C15
open Sylvia Sylvia.Gen Sylvia.Facts

theorem mem_dedup {x : String} : ∀ {l : List String}, x ∈ dedup l ↔ x ∈ l
  | [] => .rfl
  | y :: r => by by_cases e : x = y <;> simp [dedup, mem_dedup (l := r), e]

theorem nodup_dedup : ∀ l : List String, (dedup l).Nodup
  | [] => .nil
  | y :: r => List.nodup_cons.mpr ⟨by simp [List.mem_filter], (nodup_dedup r).filter _⟩

theorem mem_usedOf {gens occ : List String} {g : String} : g ∈ usedOf gens occ ↔ g ∈ gens ∧ g ∈ occ := by
  rw [usedOf, mem_dedup, List.mem_filter, List.contains_iff_mem, and_comm]

/-- **exactly the parameters that occur** -/
theorem used_iff (k : Kind) (gens : List String) (ms : List Method) (g : String) :
    g ∈ usedGenerics k gens ms ↔ g ∈ gens ∧ ∃ m ∈ ms, m.kind? = some k ∧ g ∈ methodOcc k m := by
  simp only [usedGenerics, mem_usedOf, mem_variantsOf, List.mem_flatMap, and_assoc]

/-- **each once** -/
theorem used_nodup (k : Kind) (gens : List String) (ms : List Method) : (usedGenerics k gens ms).Nodup :=
  nodup_dedup _

/-- used and unused partition the user's parameters -/
theorem used_unused_partition (k : Kind) (gens : List String) (ms : List Method) (g : String) (hg : g ∈ gens) :
    (g ∈ usedGenerics k gens ms ∧ g ∉ unusedGenerics k gens ms) ∨ (g ∉ usedGenerics k gens ms ∧ g ∈ unusedGenerics k gens ms) := by
  by_cases h : g ∈ usedGenerics k gens ms <;> simp [unusedGenerics, h, hg]

/-- **constrained only by bounds that mention no other parameter**: a predicate is kept iff every user
parameter it mentions is used by the message type -/
theorem where_iff (gens used : List String) (ws : List WherePred) (w : WherePred) :
    w ∈ filterWheres gens used ws ↔ w ∈ ws ∧ ∀ g ∈ gens, g ∈ w.tys.flatMap occTy → g ∈ used := by
  simp only [filterWheres, List.mem_filter, List.all_eq_true, mem_usedOf, List.contains_iff_mem, and_imp]

/-- the type, its phantom variant and the `ContractApi` alias all carry the very same parameter list -/
theorem api_consistent (k : Kind) (c : Contract) (hk : k = .exec ∨ k = .query ∨ k = .sudo) :
    (contractEnum k c).generics = (usedGenerics k (c.generics.map (·.name)) c.methods).map (genText c.generics) ∧
    (List.lookup (match k with | .exec => "Exec" | .query => "Query" | _ => "Sudo") (contractApi c)) =
      some (msgTypeName k ++ bracketed ((contractEnum k c).generics)) := by
  rcases hk with rfl | rfl | rfl <;> exact ⟨rfl, rfl⟩

/-- non-vacuity: a parameter used only inside `Option<Vec<..>>`, one used only in a query response, one unused -/
example :
    let ms : List Method := [
      { name := [], msg := some { kind := .exec }, args := [{ name := "a", ty := .path (.cons "Option" (.cons (.path (.cons "Vec" (.cons (.path (.cons "T" .nil .nil)) .nil) .nil)) .nil) .nil) }] },
      { name := [], msg := some { kind := .query }, ret := .path (.cons "StdResult" (.cons (.path (.cons "R" .nil .nil)) .nil) .nil) }]
    usedGenerics .exec ["T", "R", "X"] ms = ["T"] ∧ usedGenerics .query ["T", "R", "X"] ms = ["R"] ∧
    unusedGenerics .exec ["T", "R", "X"] ms = ["R", "X"] := by decide

end C15
