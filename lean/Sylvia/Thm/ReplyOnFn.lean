import Sylvia.Extracted.ReplyOnFns
import Sylvia.Lemmas.Reply
/-!
# `ReplyOn::excludes`, on the regenerated code

`Extracted.ReplyOnFns.ReplyOn.excludes` is written by the function translator from
`sylvia-derive/src/parser/attributes/msg.rs` on every run. It is the function the reply-table theorems (C07, C14, C18)
call `Reply.excludes`: equal outcomes exclude each other and `always` excludes everything; it is symmetric.
-/
namespace ReplyOnFn
open RustSem

/-- the outcome names of the source and of the model -/
def conv : Extracted.ReplyOnFns.ReplyOn → Sylvia.ReplyOn
  | .Success => .success
  | .Error => .error
  | .Always => .always

theorem excludes_eq (a b : Extracted.ReplyOnFns.ReplyOn) :
    Extracted.ReplyOnFns.ReplyOn.excludes a b = .ok (Sylvia.Reply.excludes (conv a) (conv b)) := by
  cases a <;> cases b <;> rfl

theorem excludes_symmetric (a b : Extracted.ReplyOnFns.ReplyOn) :
    Extracted.ReplyOnFns.ReplyOn.excludes a b = Extracted.ReplyOnFns.ReplyOn.excludes b a := by
  rw [excludes_eq, excludes_eq, Sylvia.Reply.excludes_symm]

theorem conv_surjective (r : Sylvia.ReplyOn) : ∃ a, conv a = r := by
  cases r
  · exact ⟨.Success, rfl⟩
  · exact ⟨.Error, rfl⟩
  · exact ⟨.Always, rfl⟩

end ReplyOnFn
