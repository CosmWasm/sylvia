import Sylvia.Thm.C03
import Sylvia.Model.Domain
/-!
# C03, both directions, on an explicit domain of documents

The unrestricted "the contract-level message accepts a document iff exactly one part accepts it" is false of the
code (known findings: repeated member names, numbers the generic value cannot hold, sequences read leniently).
Here the statement is proved in full on the complement of those three classes, for *arbitrary* documents — not only
encodings of messages: unknown members, missing members, wrong types, any nesting.
-/
namespace C03
open Sylvia Sylvia.Serde

/-- the documents on which the two decoders are claimed to agree -/
structure InDomain (ps : List PartSpec) (d : Json) : Prop where
  /-- no repeated member name and no number beyond the generic value's range, at any depth -/
  plain : Plain d
  /-- no argument written as a sequence that only the value pass tolerates -/
  strict : ∀ p ∈ ps, ∀ v ∈ p.variants, ∀ k ms, d = .obj [(k, .obj ms)] → v.wire = k →
    ∀ f ∈ v.fields, ∀ val, Json.get? ms f.name = some val → Strict f.ty val

/-- one part's decoder: after the pass it sees what it would have seen on the text -/
theorem InDomain.decodeEnum_pass {ps : List PartSpec} {k : String} {body body' : Json} (dom : InDomain ps (.obj [(k, body)]))
    (hb : normalize body = some body') {p : PartSpec} (hp : p ∈ ps) :
    decodeEnum true p.variants (.obj [(k, body')]) = decodeEnum false p.variants (.obj [(k, body)]) := by
  have hsh := normalize_shape hb
  simp only [decodeEnum]
  split
  · rename_i i v hfv
    obtain ⟨hv, hw⟩ := findVariant_some hfv
    cases body <;> simp only at hsh
    case obj ms =>
      obtain ⟨ms', hms', rfl⟩ := hsh
      simp only [decodeFields_after_pass v.fields ms ms' dom.plain.2.1.1 hms'
        (dom.strict p hp v (List.mem_of_getElem? hv) k ms rfl hw)]
    all_goals first | obtain ⟨_, _, rfl⟩ := hsh | subst hsh
    all_goals rfl
  · rfl

/-- **on the domain the contract-level message is "find the part that publishes the key, run its own decoder"**,
errors included (an unknown key is reported with the document as the pass returned it) -/
theorem wrapperDecode_on_domain {ps : List PartSpec} {k : String} {body body' : Json} (dom : InDomain ps (.obj [(k, body)]))
    (hb : normalize body = some body') :
    wrapperDecode ps (.obj [(k, body)]) =
      match findPart ps k with
      | some (i, p) =>
        match decodeEnum false p.variants (.obj [(k, body)]) with
        | some (v, fs) => .ok i v fs
        | none => .errBody i
      | none => .errUnknown (unknownText ps (.obj [(k, body')])) := by
  simp only [wrapperDecode, normalize_single k body body' hb]
  cases hfp : findPart ps k with
  | none => rfl
  | some ip => simp only [dom.decodeEnum_pass hb (List.mem_of_getElem? (findPart_some hfp).1)]; rfl

theorem InDomain.single {ps : List PartSpec} {d : Json} (dom : InDomain ps d) {k : String} {body' : Json}
    (hn : normalize d = some (.obj [(k, body')])) : ∃ body, d = .obj [(k, body)] := by
  have hsh := normalize_shape hn
  cases d <;> simp only [reduceCtorEq, and_false, exists_false] at hsh
  case obj ms =>
    obtain ⟨_, hms', ⟨⟩⟩ := hsh
    have hk : ms.map Prod.fst = [k] :=
      List.perm_singleton.mp (by simpa using (normalizeMembers_perm ms [] _ (by simpa using dom.plain.1) hms').symm)
    match ms, hk with
    | [(_, b)], hk => cases hk; exact ⟨b, rfl⟩

/-- **C03 in full on the domain.** For every list of parts with faithful, pairwise disjoint routing lists, every
part `i` and every document of the domain: the contract-level message accepts the document as part `i`'s message
`(vi, fs)` **iff** part `i`'s own message type accepts it as `(vi, fs)`. -/
theorem wrapper_iff_on_domain (ps : List PartSpec) (hf : ListsFaithful ps) (hd : ListsDisjoint ps) (d : Json)
    (dom : InDomain ps d) (i : Nat) (p : PartSpec) (hp : ps[i]? = some p) (vi : Nat) (fs : List (String × Json)) :
    wrapperDecode ps d = .ok i vi fs ↔ decodeEnum false p.variants d = some (vi, fs) := by
  -- either side makes `d` a single-key object whose key `p` publishes; then `wrapperDecode_on_domain` finds `p`
  have key : ∀ k body, d = .obj [(k, body)] → k ∈ p.published →
      (wrapperDecode ps d = .ok i vi fs ↔ decodeEnum false p.variants d = some (vi, fs)) := by
    rintro k body rfl hk
    obtain ⟨body', hb⟩ := normalize_total body dom.plain.2.1
    simp only [wrapperDecode_on_domain dom hb, findPart_at ps i p k hp hk hd]
    split <;> simp_all
  constructor
  · intro h
    obtain ⟨p', k, body', hp', hn, hk, _⟩ := wrapper_ok_sound ps d i vi fs h
    cases hp.symm.trans hp'
    obtain ⟨body, hd'⟩ := dom.single hn
    exact (key k body hd' hk).mp h
  · intro h
    obtain ⟨k, body, hd', hkw⟩ := decodeEnum_key false p.variants d (vi, fs) h
    exact (key k body hd' ((hf p (List.mem_of_getElem? hp) k).mpr hkw)).mpr h

/-- corollary: on the domain, if the contract-level message accepts a document, exactly the part it names accepts it -/
theorem wrapper_accepts_iff_some_part (ps : List PartSpec) (hf : ListsFaithful ps) (hd : ListsDisjoint ps) (d : Json)
    (dom : InDomain ps d) :
    (∃ i vi fs, wrapperDecode ps d = .ok i vi fs) ↔
      (∃ (i : Nat) (p : PartSpec) (r : Nat × List (String × Json)), ps[i]? = some p ∧ decodeEnum false p.variants d = some r) := by
  constructor
  · rintro ⟨i, vi, fs, h⟩
    obtain ⟨p, _, _, hp, _⟩ := wrapper_ok_sound ps d i vi fs h
    exact ⟨i, p, (vi, fs), hp, (wrapper_iff_on_domain ps hf hd d dom i p hp vi fs).mp h⟩
  · rintro ⟨i, p, r, hp, h⟩
    obtain ⟨vi, fs⟩ := r
    exact ⟨i, vi, fs, (wrapper_iff_on_domain ps hf hd d dom i p hp vi fs).mpr h⟩

mutual
theorem plainB_sound : ∀ j : Json, plainB j = true → Plain j
  | .null, _ => trivial
  | .bool _, _ => trivial
  | .str _, _ => trivial
  | .num t, h => by simpa [plainB, Plain] using h
  | .arr xs, h => by simp only [plainB] at h; simp only [Plain]; exact plainListB_sound xs h
  | .obj ms, h => by
    simp only [plainB, Bool.and_eq_true, decide_eq_true_eq] at h
    simp only [Plain]
    exact ⟨h.1, plainMembersB_sound ms h.2⟩
theorem plainListB_sound : ∀ xs : List Json, plainListB xs = true → PlainList xs
  | [], _ => trivial
  | x :: xs, h => by
    simp only [plainListB, Bool.and_eq_true] at h
    exact ⟨plainB_sound x h.1, plainListB_sound xs h.2⟩
theorem plainMembersB_sound : ∀ ms : List (String × Json), plainMembersB ms = true → PlainMembers ms
  | [], _ => trivial
  | (_, v) :: ms, h => by
    simp only [plainMembersB, Bool.and_eq_true] at h
    exact ⟨plainB_sound v h.1, plainMembersB_sound ms h.2⟩
end

theorem strictB_sound : ∀ (t : VTy) (j : Json), strictB t j = true → Strict t j := by
  intro t
  induction t with
  | option t ih =>
    intro j h
    by_cases hj : j = .null
    · simp only [hj, Strict]
    · rw [strict_option hj]
      exact ih j (by simpa only [strictB, hj] using h)
  | vec t ih =>
    intro j h
    cases j <;> unfold Strict <;> try trivial
    rename_i xs
    unfold strictB at h
    induction xs with
    | nil => simp only [Strict.StrictAll]
    | cons x r ihr =>
      simp only [strictB.strictAllB, Bool.and_eq_true] at h
      simp only [Strict.StrictAll]
      exact ⟨ih x h.1, ihr h.2⟩
  | pair a b iha ihb =>
    intro j h
    cases j <;> unfold Strict <;> try trivial
    rename_i xs
    match xs, h with
    | [], _ | [_], _ => trivial
    | [x, y], h =>
      simp only [strictB, Bool.and_eq_true] at h
      exact ⟨iha x h.1, ihb y h.2⟩
    | _ :: _ :: _ :: _, h => simp [strictB] at h
  | _ =>
    intro j h
    cases j <;> unfold Strict <;> first | trivial | simp [strictB] at h

/-- **the executable domain check is sound**: what the driver answers `in` for satisfies the hypothesis of `wrapper_iff_on_domain` -/
theorem inDomainB_sound (ps : List PartSpec) (d : Json) (h : inDomainB ps d = true) : InDomain ps d := by
  simp only [inDomainB, Bool.and_eq_true] at h
  refine ⟨plainB_sound d h.1, ?_⟩
  intro p hp v hv k ms hd hw f hf val hval
  subst hd
  have h2 := h.2
  simp only [strictDocB, List.all_eq_true] at h2
  have := h2 p hp v hv
  simp only [Bool.or_eq_true, Bool.not_eq_true', beq_eq_false_iff_ne, ne_eq, List.all_eq_true] at this
  rcases this with hne | hall
  · exact absurd hw hne
  · have := hall f hf
    simp only [hval] at this
    exact strictB_sound _ _ this

/-- non-vacuity: a document with an unknown member, a missing optional one and nested values is in the domain -/
example : Plain (.obj [("m", .obj [("a", .arr [.str "1", .bool true]), ("zz", .obj [("q", .null)])])]) := by
  simp [Plain, PlainMembers, PlainList]

end C03
