import Sylvia.Extracted.CheckGenFns
import Sylvia.Extracted.WheresFns
import Sylvia.Model.Facts
/-!
# `CheckGenerics` and `filter_wheres`, on the regenerated code (C15)

`Extracted.CheckGenFns.*` (`sylvia-derive/src/parser/check_generics.rs`) and `Extracted.WheresFns.filter_wheres`
(`sylvia-derive/src/utils.rs`) are written by the function translator from the current source on every run. syn's walker is a
parameter: it delivers the paths of a node in visiting order, and `visit_path` — the one visit the macro overrides — is applied to
each. The theorems identify the result with the model's `Facts.usedOf` (the parameters that occur, each once, in order of first
occurrence — the object of `C15.used_iff`, `used_nodup`, `used_unused_partition`) and `Facts.filterWheres` (`C15.where_iff`), for
**every** parameter list and every sequence of visited paths.
-/
namespace GenericsFn
open RustSem Extracted.CheckGenFns Extracted.WheresFns Sylvia.Facts

/-- one visited path; a generic parameter's own path is its name (`GetPath for GenericParam`: `parse_quote!{ #ident }`) -/
def step (gens : List String) (used : List String) (p : String) : List String :=
  if gens.contains p && !used.contains p then used ++ [p] else used

theorem find_self (gens : List String) (p : String) :
    List.find? (fun g => (some g : Option String) == some p) gens = if gens.contains p then some p else none := by
  induction gens with
  | nil => rfl
  | cons g r ih =>
    rw [List.find?_cons, List.contains_cons, Option.some_beq_some, BEq.comm (a := p), ih]
    cases h : g == p
    · rfl
    · rw [eq_of_beq h]; rfl

/-- **`visit_path` never panics and is `step`** -/
theorem visit_path_eq (c : CheckGenerics String) (p : String) :
    CheckGenerics.visit_path (fun g => some g) c p = .ok { c with used := step c.generics c.used p } := by
  rw [CheckGenerics.visit_path, find_self, step]
  cases c.generics.contains p
  · rfl
  · simp only [if_true, Bool.true_and]
    split <;> rfl

/-- the walker: every path of the node, in visiting order -/
def visitAll : CheckGenerics String → List String → Res (CheckGenerics String)
  | c, [] => .ok c
  | c, p :: r => (CheckGenerics.visit_path (fun g => some g) c p).bind fun c' => visitAll c' r

theorem visitAll_eq (c : CheckGenerics String) (ps : List String) :
    visitAll c ps = .ok { c with used := ps.foldl (step c.generics) c.used } := by
  induction ps generalizing c with
  | nil => rfl
  | cons p r ih => simp [visitAll, visit_path_eq, ih]

theorem filter_ne_filter (used l : List String) (p : String) :
    (l.filter (· != p)).filter (fun x => !used.contains x) = l.filter fun x => !(used ++ [p]).contains x := by
  rw [List.filter_filter]
  apply List.filter_congr
  intro x _
  simp only [List.contains_append, List.contains_cons, List.contains_nil, Bool.or_false, Bool.not_or, bne]

theorem foldl_step (gens : List String) (occ used : List String) :
    occ.foldl (step gens) used = used ++ (dedup (occ.filter gens.contains)).filter (fun x => !used.contains x) := by
  induction occ generalizing used with
  | nil => simp [dedup]
  | cons p r ih =>
    rw [List.foldl_cons, ih, List.filter_cons, step]
    cases hg : gens.contains p
    · rfl
    · rw [if_pos rfl, dedup, List.filter_cons, filter_ne_filter]
      cases hu : used.contains p
      · exact List.append_assoc .. -- new: last of `used` on the left, first of the rest on the right
      · -- in `used` already: adding it to what is dropped changes nothing
        refine congrArg (used ++ ·) (List.filter_congr fun x _ => ?_)
        by_cases hx : x = p <;> simp [hx, List.contains_iff_mem.mp hu]

theorem foldl_step_nil (gens occ : List String) : occ.foldl (step gens) [] = usedOf gens occ := by
  rw [foldl_step, List.nil_append]
  exact List.filter_eq_self.mpr fun _ _ => rfl

/-- **the regenerated checker computes the model's `usedOf`**: for every parameter list and every sequence of visited paths -/
theorem used_eq_model (gens occ : List String) :
    ((CheckGenerics.new (fun g => some g) gens).bind fun c => (visitAll c occ).bind (CheckGenerics.used_m (fun g => some g)))
      = .ok (usedOf gens occ) := by
  simp only [CheckGenerics.new, bind_ok, visitAll_eq, CheckGenerics.used_m, foldl_step_nil]

/-- **the used / unused split** is the model's: `unused` are the parameters not in `used`, in declaration order -/
theorem used_unused_eq (gens occ : List String) :
    ((CheckGenerics.new (fun g => some g) gens).bind fun c => (visitAll c occ).bind (CheckGenerics.used_unused (fun g => some g)))
      = .ok (usedOf gens occ, gens.filter fun g => !(usedOf gens occ).contains g) := by
  simp only [CheckGenerics.new, bind_ok, visitAll_eq, CheckGenerics.used_unused, foldl_step_nil]

/-- the checker as `filter_wheres` uses it (total, by the theorems above) -/
def cgNew (gens : List String) : CheckGenerics String := { generics := gens, used := [] }
def cgVisit (paths : WP → List String) (c : CheckGenerics String) (w : WP) : CheckGenerics String :=
  { c with used := (paths w).foldl (step c.generics) c.used }
def cgUsed (c : CheckGenerics String) : List String := c.used

theorem cg_is_code {WP : Type} (paths : WP → List String) (gens : List String) (w : WP) :
    CheckGenerics.new (fun g => some g) gens = .ok (cgNew gens) ∧
    visitAll (cgNew gens) (paths w) = .ok (cgVisit paths (cgNew gens) w) ∧
    CheckGenerics.used_m (fun g => some g) (cgVisit paths (cgNew gens) w) = .ok (cgUsed (cgVisit paths (cgNew gens) w)) :=
  ⟨rfl, visitAll_eq _ _, rfl⟩

/-- **`filter_wheres` keeps a predicate iff every parameter it mentions is used** — the model's `filterWheres`, for every where-clause -/
theorem filter_wheres_eq {WP : Type} (paths : WP → List String) (ws : List WP) (gens used : List String) :
    filter_wheres cgNew (cgVisit paths) cgUsed (some ws) gens used
      = .ok (ws.filter fun w => (usedOf gens (paths w)).all used.contains) := by
  simp only [filter_wheres, Option.map, Option.getD, cgNew, cgVisit, cgUsed, foldl_step_nil]

theorem filter_wheres_none {WP : Type} (paths : WP → List String) (gens used : List String) :
    filter_wheres cgNew (cgVisit paths) cgUsed (none : Option (List WP)) gens used = .ok [] := rfl

/-- the model's `filterWheres` is this function on the model's predicates, whose visited paths are `w.tys.flatMap occTy` -/
theorem filter_wheres_is_model (ws : List Sylvia.WherePred) (gens used : List String) :
    filter_wheres cgNew (cgVisit fun w : Sylvia.WherePred => w.tys.flatMap occTy) cgUsed (some ws) gens used = .ok (filterWheres gens used ws) := by
  rw [filter_wheres_eq]; rfl

example : ((CheckGenerics.new (fun g => some g) ["T", "U", "V"]).bind fun c =>
    (visitAll c ["Vec", "U", "x::T", "U", "T"]).bind (CheckGenerics.used_unused (fun g => some g))) = .ok (["U", "T"], ["V"]) := rfl

end GenericsFn
