import Sylvia.Lemmas.Inter
import Sylvia.Lemmas.Lex
/-!
# C05 — name collisions between the parts of a contract-level message are rejected at build time

`Inter.assertNoIntersection` is the model of `sylvia::utils::assert_no_intersection` (a `const fn`
evaluated inside a `const _` item, so "returns `some false`" = "the contract fails to compile").
`some true` = returned normally, `some false` = panicked, `none` = fuel exhausted (shown impossible).
The theorems hold for any number of arrays of any lengths (including empty arrays and `N = 0`),
over any strict total order; `Lex.strictTotal` instantiates them with the byte-wise order of
`konst::cmp_str`.
-/
namespace C05
open Inter

variable {α : Type} [DecidableEq α] {lt : α → α → Bool}

/-- every input array is strictly increasing (sorted and duplicate-free) -/
def AllSorted (lt : α → α → Bool) (msgs : List (List α)) : Prop := ∀ m ∈ msgs, Sorted lt m

/-- The scan always terminates within the fuel it is given (total length of the arrays), and the
`unreachable!()` arm is never taken (`Inter.nextIndex_ongoing`). -/
theorem terminates (ord : StrictTotal lt) (msgs : List (List α)) :
    assertNoIntersection lt msgs ≠ none :=
  loop_terminates ord (Nat.le_of_eq (remaining_init msgs))

/-- A panic is never spurious: it implies a name shared by two different arrays. No sortedness needed. -/
theorem panic_sound (msgs : List (List α)) :
    assertNoIntersection lt msgs = some false → ¬ Disjoint msgs :=
  fun h => init_full msgs ▸ loop_false_sound h

/-- On sorted, duplicate-free arrays a normal return means no name is shared. -/
theorem complete (ord : StrictTotal lt) (msgs : List (List α)) (hs : AllSorted lt msgs) :
    assertNoIntersection lt msgs = some true → Disjoint msgs :=
  fun h => init_full msgs ▸ loop_true_complete ord (sortedRest_init hs) (inv_init msgs) h

theorem decides (ord : StrictTotal lt) (msgs : List (List α)) :
    assertNoIntersection lt msgs = some true ∨ assertNoIntersection lt msgs = some false := by
  cases h : assertNoIntersection lt msgs with
  | none => exact absurd h (terminates ord msgs)
  | some b => cases b <;> simp

/-- **C05, overlap check.** For all tuples of sorted duplicate-free lists: compiles iff disjoint. -/
theorem spec (ord : StrictTotal lt) (msgs : List (List α)) (hs : AllSorted lt msgs) :
    assertNoIntersection lt msgs = some true ↔ Disjoint msgs :=
  ⟨complete ord msgs hs, fun hd => (decides ord msgs).resolve_right fun h => panic_sound msgs h hd⟩

/-- … and fails to compile iff some name is shared. -/
theorem rejects_iff (ord : StrictTotal lt) (msgs : List (List α)) (hs : AllSorted lt msgs) :
    assertNoIntersection lt msgs = some false ↔ ¬ Disjoint msgs :=
  ⟨panic_sound msgs, fun hnd => (decides ord msgs).resolve_left fun h => hnd (complete ord msgs hs h)⟩

/-- The instance used by the code: names are byte strings ordered as `konst::cmp_str` orders them. -/
theorem spec_bytes (msgs : List (List (List Nat))) (hs : AllSorted Lex.lexLt msgs) :
    assertNoIntersection Lex.lexLt msgs = some true ↔ Disjoint msgs :=
  spec Lex.strictTotal msgs hs

/-- Non-vacuity: a concrete sorted tuple with an empty array, disjoint, accepted. -/
example : AllSorted Lex.lexLt [[[97], [98, 99]], [], [[98]]] ∧
    assertNoIntersection Lex.lexLt [[[97], [98, 99]], [], [[98]]] = some true := by
  refine ⟨?_, by decide⟩
  intro m hm
  simp at hm
  rcases hm with rfl | rfl | rfl <;> simp [Sorted, Lex.lexLt]

/-- Non-vacuity: a shared name makes it panic. -/
example : assertNoIntersection Lex.lexLt [[[97], [98]], [[98]]] = some false := by decide

end C05
