import Sylvia.Extracted.UtilsFns
import Sylvia.Thm.C05
/-!
# C05 — the functions regenerated from `sylvia/src/utils.rs` refine the zipper model

`Extracted.Utils.*` is written by the function translator from the current Rust source on every run
(index-based states array, `Res` = value / panic / out of fuel). This file proves that it computes
what `Inter.loop` computes under the abstraction `absC` (state `Ongoing k` of array `m` ↦ cursor
`⟨(m.take k).reverse, m.drop k⟩`), so the theorems of `Thm/C05.lean` hold of the regenerated code.
-/
set_option linter.unusedSectionVars false
namespace C05R
open RustSem Extracted.Utils Inter

variable {α : Type} [DecidableEq α]

def WfS (m : List α) : State → Prop
  | .Ongoing k => k < m.length
  | .Finished k => k + 1 = m.length
  | .Empty => m = []

def absS (m : List α) : State → Cur α
  | .Ongoing k => ⟨(m.take k).reverse, m.drop k⟩
  | .Finished _ => ⟨m.reverse, []⟩
  | .Empty => ⟨[], []⟩

def absC (msgs : List (List α)) (sts : List State) : List (Cur α) := List.zipWith absS msgs sts

structure Wf (msgs : List (List α)) (sts : List State) : Prop where
  len : sts.length = msgs.length
  each : ∀ (i : Nat) (m : List α) (s : State), msgs[i]? = some m → sts[i]? = some s → WfS m s

def isOngoing : State → Bool
  | .Ongoing _ => true
  | _ => false

/-- what `get_next_alphabetical_index` reads through a state: `msgs[i][k]` under `Ongoing(k)` -/
def headS (m : List α) : State → Option α
  | .Ongoing k => m[k]?
  | _ => none

/-- what `verify_no_collissions` reads: `msgs[i][k]` under `Ongoing(k) | Finished(k)` -/
def lookS (m : List α) : State → Option α
  | .Ongoing k => m[k]?
  | .Finished k => m[k]?
  | .Empty => none

theorem head_absS (m : List α) (s : State) : (absS m s).head = headS m s := by
  cases s <;> simp [absS, Cur.head, headS]

theorem look_absS {m : List α} {s : State} (w : WfS m s) : (absS m s).look = lookS m s := by
  cases s with
  | Ongoing k =>
    have hk : m[k]? = some m[k] := List.getElem?_eq_getElem w
    exact (Cur.look_of_head ((head_absS m (.Ongoing k)).trans hk)).trans hk.symm
  | Finished k => simp [absS, Cur.look, lookS, List.getLast?_eq_getElem?, ← show k + 1 = m.length from w]
  | Empty => rfl

theorem rest_absS {m : List α} {s : State} (w : WfS m s) : (absS m s).rest.isEmpty = !isOngoing s := by
  cases s with
  | Ongoing k => simpa [absS, isOngoing, WfS] using w
  | Finished k => rfl
  | Empty => rfl

theorem Wf.get {msgs : List (List α)} {sts : List State} (w : Wf msgs sts) {i : Nat} (hi : i < sts.length) :
    WfS (msgs[i]'(w.len ▸ hi)) sts[i] :=
  w.each i _ _ (List.getElem?_eq_getElem _) (List.getElem?_eq_getElem _)

theorem absC_length {msgs : List (List α)} {sts : List State} (w : Wf msgs sts) : (absC msgs sts).length = sts.length := by
  simp [absC, w.len]

theorem absC_getElem {msgs : List (List α)} {sts : List State} (w : Wf msgs sts) {i : Nat} (hi : i < sts.length) :
    (absC msgs sts)[i]'(absC_length w ▸ hi) = absS (msgs[i]'(w.len ▸ hi)) sts[i] :=
  List.getElem_zipWith ..

theorem hd_abs {msgs : List (List α)} {sts : List State} (w : Wf msgs sts) {i : Nat} (hi : i < sts.length) :
    hd (absC msgs sts) i = headS (msgs[i]'(w.len ▸ hi)) sts[i] := by
  rw [hd, List.getElem?_eq_getElem (absC_length w ▸ hi), absC_getElem w hi]; exact head_absS ..

theorem lk_abs {msgs : List (List α)} {sts : List State} (w : Wf msgs sts) {i : Nat} (hi : i < sts.length) :
    lk (absC msgs sts) i = lookS (msgs[i]'(w.len ▸ hi)) sts[i] := by
  rw [lk, List.getElem?_eq_getElem (absC_length w ▸ hi), absC_getElem w hi]; exact look_absS (w.get hi)

/-- A translated `for i in a..N` counts the iterations left in `k`, so `i + k = N` throughout. -/
theorem for_step {i k n : Nat} (h : i + (k + 1) = n) : i < n ∧ i + 1 + k = n :=
  ⟨Nat.lt_of_lt_of_eq (Nat.lt_add_of_pos_right k.succ_pos) h, (Nat.succ_add i k).trans h⟩

theorem should_end_loop (sts : List State) (N : Nat) :
    ∀ (k i : Nat), i + k = sts.length →
      should_end.loop0 N sts k i =
        if (sts.drop i).any isOngoing then .ok (.ret false) else .ok (.done ()) := by
  intro k
  induction k with
  | zero => intro i h; rw [List.drop_of_length_le (show sts.length ≤ i from Nat.le_of_eq h.symm)]; rfl
  | succ k ih =>
    intro i h
    obtain ⟨hi, h'⟩ := for_step h
    rw [should_end.loop0, idx_lt hi, bind_ok, List.drop_eq_getElem_cons hi, List.any_cons, ih (i + 1) h']
    cases sts[i] <;> rfl

theorem should_end_eq (sts : List State) : should_end sts.length sts = .ok (!(sts.any isOngoing)) := by
  rw [should_end, Nat.sub_zero, should_end_loop sts _ _ 0 (Nat.zero_add _), List.drop_zero]
  cases sts.any isOngoing <;> rfl

theorem shouldEnd_abs {msgs : List (List α)} {sts : List State} (w : Wf msgs sts) :
    shouldEnd (absC msgs sts) = !(sts.any isOngoing) := by
  have : (absC msgs sts).map (fun c => c.rest.isEmpty) = sts.map (fun s => !isOngoing s) :=
    List.ext_getElem (by simp [absC_length w]) fun i h _ => by
      have hi : i < sts.length := by simpa [absC_length w] using h
      simpa [absC] using rest_absS (w.get hi)
  simpa [List.all_map, Function.comp_def, shouldEnd, List.all_eq_not_any_not] using congrArg (·.all id) this

theorem gnai_loop {lt : α → α → Bool} {cmp : α → α → Ordering} (hcmp : ∀ a b, cmp a b = .gt ↔ lt b a = true)
    {msgs : List (List α)} {sts : List State} (w : Wf msgs sts) (N : Nat) :
    ∀ (k i out : Nat), i + k = sts.length → out ≤ i →
      get_next_alphabetical_index.loop0 cmp N msgs sts k i out =
        .ok (.done (nextIndexGo lt (absC msgs sts) out i ((absC msgs sts).drop i))) := by
  intro k
  induction k with
  | zero =>
    intro i out h _
    rw [List.drop_of_length_le (absC_length w ▸ Nat.le_of_eq h.symm)]; rfl
  | succ k ih =>
    intro i out h hoi
    obtain ⟨hi, h'⟩ := for_step h
    have ho : out < sts.length := Nat.lt_of_le_of_lt hoi hi
    have hm : i < msgs.length := w.len ▸ hi
    have hmo : out < msgs.length := w.len ▸ ho
    have wi := w.get hi
    have wo := w.get ho
    rw [List.drop_eq_getElem_cons (absC_length w ▸ hi), nextIndexGo, ← hd, hd_abs w ho, absC_getElem w hi, head_absS,
      get_next_alphabetical_index.loop0, ih (i + 1) i h' (Nat.le_succ i), ih (i + 1) out h' (Nat.le_succ_of_le hoi)]
    rw [idx_lt hi, idx_lt ho, idx_lt hm, idx_lt hmo]
    dsimp only [bind_ok]
    generalize sts[i] = s at wi ⊢
    generalize sts[out] = so at wo ⊢
    cases s with
    | Ongoing oi =>
      have hoi : oi < msgs[i].length := wi
      cases so with
      | Ongoing ii =>
        have hii : ii < msgs[out].length := wo
        simp only [idx_lt, hoi, hii, bind_ok, headS, List.getElem?_eq_getElem]
        split
        next hg => rw [if_pos ((hcmp _ _).mp hg)]
        next hg => rw [if_neg fun h => hg ((hcmp _ _).mpr h)]
      | _ => simp only [headS, List.getElem?_eq_getElem hoi]
    | _ => rfl

theorem gnai_eq {lt : α → α → Bool} {cmp : α → α → Ordering} (hcmp : ∀ a b, cmp a b = .gt ↔ lt b a = true)
    {msgs : List (List α)} {sts : List State} (w : Wf msgs sts) :
    get_next_alphabetical_index cmp sts.length msgs sts = .ok (nextIndex lt (absC msgs sts)) := by
  rw [get_next_alphabetical_index, Nat.sub_zero, gnai_loop hcmp w _ _ 0 0 (Nat.zero_add _) (Nat.le_refl _)]
  rfl

/-- the test `verify_no_collissions` performs on array `j` against the head of array `m` -/
def hits (cs : List (Cur α)) (m j : Nat) : Bool :=
  j != m && (hd cs m).any fun h => lk cs j == some h

theorem collides_eq_any (cs : List (Cur α)) (m : Nat) :
    collides cs m = (List.range' 0 cs.length).any (hits cs m) := by
  unfold collides hits hd lk
  rw [← List.range_eq_range']
  cases (cs[m]?).bind Cur.head with
  | none => simp
  | some h => rfl

theorem ite_or {β : Type} (a b : Bool) (x y : β) :
    (if (a || b) = true then x else y) = if a = true then x else if b = true then x else y := by
  cases a <;> rfl

theorem vnc_loop {msgs : List (List α)} {sts : List State} (w : Wf msgs sts) {index : Nat} (hx : index < sts.length) :
    ∀ (fuel k i : Nat), i + k = sts.length → k < fuel →
      verify_no_collissions.loop0 sts.length msgs sts index fuel i =
        if (List.range' i k).any (hits (absC msgs sts) index) then .panic else .ok (.done sts.length) := by
  intro fuel
  induction fuel with
  | zero => exact fun k _ _ hf => absurd hf (Nat.not_lt_zero k)
  | succ fuel ih =>
    intro k i h hf
    rw [verify_no_collissions.loop0]
    cases k with
    | zero => rw [if_neg (Nat.lt_irrefl _ <| h ▸ ·), ← h]; rfl
    | succ k =>
      obtain ⟨hi, h'⟩ := for_step h
      rw [if_pos hi, List.range'_succ, List.any_cons, ite_or, ← ih k (i + 1) h' (Nat.lt_of_succ_lt_succ hf)]
      by_cases hix : i = index
      · simp [hix, hits]
      · have hm : i < msgs.length := w.len ▸ hi
        have hmx : index < msgs.length := w.len ▸ hx
        have wi := w.get hi
        have wx := w.get hx
        rw [if_neg (by simpa using hix), idx_lt hi, idx_lt hx, idx_lt hm, idx_lt hmx,
          hits, hd_abs w hx, lk_abs w hi, bne_iff_ne.mpr hix, Bool.true_and]
        dsimp only [bind_ok]
        generalize sts[i] = s at wi ⊢
        generalize sts[index] = sx at wx ⊢
        cases s with
        | Empty => cases headS msgs[index] sx <;> rfl
        | Ongoing o | Finished o =>
          have ho : o < msgs[i].length := by simp only [WfS] at wi; omega
          cases sx with
          | Ongoing inner =>
            have hin : inner < msgs[index].length := wx
            simp only [idx_lt, ho, hin, bind_ok, headS, lookS, List.getElem?_eq_getElem, Option.any_some,
              Option.some_beq_some]
          | _ => rfl

theorem vnc_eq {msgs : List (List α)} {sts : List State} (w : Wf msgs sts) {index : Nat} (hidx : index < sts.length)
    {fuel : Nat} (hf : sts.length < fuel) :
    verify_no_collissions fuel sts.length msgs sts index =
      if collides (absC msgs sts) index then .panic else .ok () := by
  rw [verify_no_collissions, vnc_loop w hidx fuel _ 0 (Nat.zero_add _) hf, collides_eq_any, absC_length w]
  split <;> rfl

theorem advance_absS {m : List α} {wi : Nat} (h : wi < m.length) :
    (absS m (.Ongoing wi)).advance =
      absS m (if m.length == wi + 1 then State.Finished wi else State.Ongoing (wi + 1)) := by
  have hadv : (absS m (.Ongoing wi)).advance = ⟨(m.take (wi + 1)).reverse, m.drop (wi + 1)⟩ := by
    rw [absS, List.drop_eq_getElem_cons h, List.take_succ_eq_append_getElem h, List.reverse_append]; rfl
  rw [hadv]
  split
  next he =>
    have hle := Nat.le_of_eq (beq_iff_eq.mp he)
    rw [List.take_of_length_le hle, List.drop_of_length_le hle]; rfl
  next => rfl

theorem wfS_next {m : List α} {wi : Nat} (h : wi < m.length) :
    WfS m (if m.length == wi + 1 then State.Finished wi else State.Ongoing (wi + 1)) := by
  split
  next he => exact (beq_iff_eq.mp he).symm
  next he => exact Nat.lt_of_le_of_ne h fun e => he (beq_iff_eq.mpr e.symm)

theorem upd_abs {msgs : List (List α)} {sts : List State} (w : Wf msgs sts) {index wi : Nat}
    (hidx : index < sts.length) (hmx : index < msgs.length) (hs : sts[index] = .Ongoing wi) (s' : State)
    (hs' : s' = if msgs[index].length == wi + 1 then State.Finished wi else State.Ongoing (wi + 1)) :
    Wf msgs (sts.set index s') ∧ absC msgs (sts.set index s') = step (absC msgs sts) index := by
  have hwi : WfS msgs[index] (.Ongoing wi) := hs ▸ w.get hidx
  subst hs'
  constructor
  · refine ⟨(List.length_set ..).trans w.len, fun i m s hm hsi => ?_⟩
    by_cases hi : index = i
    · subst hi
      rw [List.getElem?_set_self hidx] at hsi
      rw [List.getElem?_eq_getElem hmx] at hm
      cases hm; cases hsi
      exact wfS_next hwi
    · rw [List.getElem?_set_ne hi] at hsi
      exact w.each i m s hm hsi
  · refine List.ext_getElem (by simp [absC, step]) fun j h₁ h₂ => ?_
    simp only [absC, step, List.getElem_zipWith, List.getElem_set, List.getElem_modify]
    by_cases hj : index = j
    · subst hj; rw [if_pos rfl, if_pos rfl, hs, advance_absS hwi]
    · rw [if_neg hj, if_neg hj]

def initS (m : List α) : State := if m.isEmpty then State.Empty else State.Ongoing 0

theorem init_loop (msgs : List (List α)) (N : Nat) :
    ∀ (k i : Nat), i + k = msgs.length →
      init_states.loop0 N msgs k i ((msgs.take i).map initS ++ List.replicate k (State.Ongoing 0)) =
        .ok (.done (msgs.map initS)) := by
  intro k
  induction k with
  | zero =>
    intro i h
    rw [List.take_of_length_le (show msgs.length ≤ i from Nat.le_of_eq h.symm), List.replicate_zero, List.append_nil]
    rfl
  | succ k ih =>
    intro i h
    obtain ⟨hi, h'⟩ := for_step h
    have hlen : ((msgs.take i).map initS).length = i := by
      rw [List.length_map, List.length_take, Nat.min_eq_left (Nat.le_of_lt hi)]
    rw [init_states.loop0, idx_lt hi, bind_ok, ← ih (i + 1) h', List.take_succ_eq_append_getElem hi, List.map_append, List.append_assoc, List.replicate_succ, List.map_singleton,
      List.singleton_append, initS]
    split
    · rw [setIdx_append_cons hlen, bind_ok]
    · rfl

theorem init_eq (msgs : List (List α)) : init_states msgs.length msgs = .ok (msgs.map initS) := by
  rw [init_states, Nat.sub_zero, ← List.nil_append (List.replicate _ _)]
  exact congrArg (Res.bind · _) (init_loop msgs _ _ 0 (Nat.zero_add _))

theorem init_wf (msgs : List (List α)) : Wf msgs (msgs.map initS) ∧ absC msgs (msgs.map initS) = Inter.init msgs := by
  constructor
  · refine ⟨by simp, fun i m s hm hs => ?_⟩
    rw [List.getElem?_map, hm] at hs
    cases hs
    cases m <;> simp [initS, WfS]
  · refine List.ext_getElem? fun j => ?_
    rw [absC, List.getElem?_zipWith, Inter.init, List.getElem?_map, List.getElem?_map]
    cases msgs[j]? with
    | none => rfl
    | some m => cases m <;> rfl

def toRes : Option Bool → Res Unit
  | none => .oof
  | some true => .ok ()
  | some false => .panic

def void {σ : Type} : Res (LoopOut σ Unit) → Res Unit
  | .ok _ => .ok ()
  | .panic => .panic
  | .oof => .oof

theorem loop0_end {cmp : α → α → Ordering} {msgs : List (List α)} {sts : List State} (w : Wf msgs sts)
    (he : shouldEnd (absC msgs sts) = true) (fuel0 n : Nat) :
    assert_no_intersection.loop0 cmp fuel0 msgs.length msgs (n + 1) sts = .ok (.done sts) := by
  rw [assert_no_intersection.loop0, ← w.len, should_end_eq, bind_ok, ← shouldEnd_abs w, he]; rfl

/-- The `unreachable!()` arm is not taken: the selected state is `Ongoing` by `nextIndex_ongoing`. -/
theorem loop0_succ {lt : α → α → Bool} {cmp : α → α → Ordering} (ord : StrictTotal lt)
    (hcmp : ∀ a b, cmp a b = .gt ↔ lt b a = true) {msgs : List (List α)} {fuel0 : Nat} (hf0 : msgs.length < fuel0)
    {sts : List State} (w : Wf msgs sts) (he : shouldEnd (absC msgs sts) = false) (n : Nat) :
    ∃ sts', Wf msgs sts' ∧ absC msgs sts' = step (absC msgs sts) (nextIndex lt (absC msgs sts)) ∧
      assert_no_intersection.loop0 cmp fuel0 msgs.length msgs (n + 1) sts =
        if collides (absC msgs sts) (nextIndex lt (absC msgs sts)) then .panic
        else assert_no_intersection.loop0 cmp fuel0 msgs.length msgs n sts' := by
  obtain ⟨x, hx⟩ := nextIndex_ongoing ord he
  have hidx : nextIndex lt (absC msgs sts) < sts.length := absC_length w ▸ hd_lt_length hx
  have hmx : nextIndex lt (absC msgs sts) < msgs.length := w.len ▸ hidx
  rw [hd_abs w hidx] at hx
  rw [assert_no_intersection.loop0, ← w.len, should_end_eq, bind_ok, ← shouldEnd_abs w, he, Bool.not_false, if_pos rfl,
    gnai_eq hcmp w, bind_ok, vnc_eq w hidx (w.len ▸ hf0), idx_lt hidx, idx_lt hmx]
  generalize nextIndex lt (absC msgs sts) = m at *
  cases hs : sts[m] with
  | Ongoing wi =>
    obtain ⟨w', ha⟩ := upd_abs w hidx hmx hs _ rfl
    refine ⟨_, w', ha, ?_⟩
    dsimp only [bind_ok]
    rw [setIdx_of_lt _ hidx, setIdx_of_lt _ hidx,
      apply_ite (assert_no_intersection.loop0 cmp fuel0 sts.length msgs n <| sts.set m ·)]
    cases collides (absC msgs sts) m <;> rfl
  | _ => rw [hs] at hx; cases hx

/-- **Main loop.** Whenever the zipper model decides (within `fuel`), the regenerated loop decides the same
(with one more unit of fuel: a translated `while` spends one unit on the final test of its condition). -/
theorem main_loop {lt : α → α → Bool} {cmp : α → α → Ordering} (ord : StrictTotal lt)
    (hcmp : ∀ a b, cmp a b = .gt ↔ lt b a = true) {msgs : List (List α)} {fuel0 : Nat} (hf0 : msgs.length < fuel0) :
    ∀ (fuel : Nat) (sts : List State) (b : Bool), Wf msgs sts → Inter.loop lt fuel (absC msgs sts) = some b →
      void (assert_no_intersection.loop0 cmp fuel0 msgs.length msgs (fuel+1) sts) = toRes (some b) := by
  intro fuel sts b w h
  generalize hcs : absC msgs sts = cs at h
  fun_induction Inter.loop lt fuel cs generalizing sts with
  | case2 => cases h
  | case1 _ he | case3 _ _ he => cases h; rw [loop0_end w (hcs ▸ he)]; rfl
  | case4 n _ he m hc =>
    subst hcs; cases h
    obtain ⟨_, _, _, e⟩ := loop0_succ ord hcmp hf0 w (Bool.eq_false_iff.mpr he) (n + 1)
    rw [e, if_pos hc]; rfl
  | case5 n _ he m hc ih =>
    subst hcs
    obtain ⟨sts', w', ha, e⟩ := loop0_succ ord hcmp hf0 w (Bool.eq_false_iff.mpr he) (n + 1)
    rw [e, if_neg hc]; exact ih sts' w' ha h

/-- `assert_no_intersection::<N>(msgs)` with `N = msgs.len()` (Rust fixes `N` by the argument's type) -/
theorem top {lt : α → α → Bool} {cmp : α → α → Ordering} (ord : StrictTotal lt)
    (hcmp : ∀ a b, cmp a b = .gt ↔ lt b a = true) (msgs : List (List α)) (fuel : Nat) (hf : msgs.length < fuel)
    (b : Bool) (h : Inter.loop lt (fuel - 1) (Inter.init msgs) = some b) :
    assert_no_intersection cmp fuel msgs.length msgs = toRes (some b) := by
  obtain ⟨w, ha⟩ := init_wf msgs
  have hm := main_loop ord hcmp hf (fuel - 1) _ b w (ha ▸ h)
  rw [Nat.sub_add_cancel (Nat.zero_lt_of_lt hf)] at hm
  rw [assert_no_intersection, init_eq, bind_ok, ← hm]
  cases assert_no_intersection.loop0 cmp fuel msgs.length msgs fuel (msgs.map initS) with
  | ok out => cases out <;> rfl
  | _ => rfl

/-- The model runs on the total length of the arrays, the code on `fuel - 1`: `loop_mono`. -/
theorem code_eq {lt : α → α → Bool} {cmp : α → α → Ordering} (ord : StrictTotal lt)
    (hcmp : ∀ a b, cmp a b = .gt ↔ lt b a = true) (msgs : List (List α))
    (fuel : Nat) (hf1 : msgs.length < fuel) (hf2 : (msgs.map List.length).sum < fuel) :
    assert_no_intersection cmp fuel msgs.length msgs = toRes (assertNoIntersection lt msgs) := by
  obtain ⟨b, hb⟩ := Option.ne_none_iff_exists'.mp (C05.terminates ord msgs)
  exact hb ▸ top ord hcmp msgs fuel hf1 b (loop_mono hb (Nat.le_sub_one_of_lt hf2))

theorem toRes_eq_ok {r : Option Bool} : toRes r = .ok () ↔ r = some true := by
  rcases r with _ | _ | _ <;> simp [toRes]

theorem toRes_eq_panic {r : Option Bool} : toRes r = .panic ↔ r = some false := by
  rcases r with _ | _ | _ <;> simp [toRes]

theorem toRes_eq_oof {r : Option Bool} : toRes r = .oof ↔ r = none := by
  rcases r with _ | _ | _ <;> simp [toRes]

/-- **C05 on the regenerated code.** For every number and length of sorted duplicate-free arrays, over any strict
total order agreeing with `cmp_str`, and any fuel above the number of arrays and their total length: the translated
`assert_no_intersection` returns normally iff the arrays are pairwise disjoint, panics iff they are not, and never
runs out of fuel. In particular no index is ever out of bounds and `unreachable!()` is never reached. -/
theorem code_spec {lt : α → α → Bool} {cmp : α → α → Ordering} (ord : StrictTotal lt)
    (hcmp : ∀ a b, cmp a b = .gt ↔ lt b a = true) (msgs : List (List α)) (hs : ∀ m ∈ msgs, Sorted lt m)
    (fuel : Nat) (hf1 : msgs.length < fuel) (hf2 : (msgs.map List.length).sum < fuel) :
    (assert_no_intersection cmp fuel msgs.length msgs = .ok () ↔ Inter.Disjoint msgs) ∧
    (assert_no_intersection cmp fuel msgs.length msgs = .panic ↔ ¬ Inter.Disjoint msgs) ∧
    assert_no_intersection cmp fuel msgs.length msgs ≠ .oof := by
  rw [code_eq ord hcmp msgs fuel hf1 hf2, toRes_eq_ok, toRes_eq_panic, Ne, toRes_eq_oof]
  exact ⟨C05.spec ord msgs hs, C05.rejects_iff ord msgs hs, C05.terminates ord msgs⟩

/-- A panic of the translated code is never spurious, sorted input or not: it implies a shared name. Hence the
index expressions and the `unreachable!()` arm cannot be what panics on disjoint input. -/
theorem code_panic_sound {lt : α → α → Bool} {cmp : α → α → Ordering} (ord : StrictTotal lt)
    (hcmp : ∀ a b, cmp a b = .gt ↔ lt b a = true) (msgs : List (List α))
    (fuel : Nat) (hf1 : msgs.length < fuel) (hf2 : (msgs.map List.length).sum < fuel) :
    assert_no_intersection cmp fuel msgs.length msgs = .panic → ¬ Inter.Disjoint msgs := by
  rw [code_eq ord hcmp msgs fuel hf1 hf2, toRes_eq_panic]
  exact C05.panic_sound msgs

/-- the instance the code runs: names as byte strings -/
theorem code_spec_bytes (msgs : List (List (List Nat))) (hs : ∀ m ∈ msgs, Sorted Lex.lexLt m)
    (fuel : Nat) (hf1 : msgs.length < fuel) (hf2 : (msgs.map List.length).sum < fuel) :
    (assert_no_intersection Lex.cmpBytes fuel msgs.length msgs = .ok () ↔ Inter.Disjoint msgs) ∧
    (assert_no_intersection Lex.cmpBytes fuel msgs.length msgs = .panic ↔ ¬ Inter.Disjoint msgs) ∧
    assert_no_intersection Lex.cmpBytes fuel msgs.length msgs ≠ .oof :=
  code_spec Lex.strictTotal Lex.cmpBytes_gt msgs hs fuel hf1 hf2

/-- Non-vacuity / sanity: the regenerated code on concrete tuples. -/
example : assert_no_intersection Lex.cmpBytes 10 3 [[[97], [98, 99]], [], [[98]]] = .ok () := by decide +kernel
example : assert_no_intersection Lex.cmpBytes 10 2 [[[97], [98]], [[98]]] = .panic := by decide +kernel
example : assert_no_intersection Lex.cmpBytes 10 0 ([] : List (List (List Nat))) = .ok () := by decide +kernel

end C05R
