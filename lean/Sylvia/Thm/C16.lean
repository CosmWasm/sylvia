import Sylvia.Model.QueryResponses
import Sylvia.Lemmas.Gen
/-!
# C16 — query response metadata names each query's real response type
-/
namespace C16
open Sylvia Sylvia.Gen Sylvia.Facts Sylvia.QueryResponses

/-- the keys of a part's table are exactly the wire names of its query messages, in order -/
theorem responses_keys (ms : List Method) : (table ms).map Prod.fst = (variantSpecs .query ms).map (·.wire) := by
  simp [table, variantSpecs, variantSpec, Function.comp_def]

theorem mem_table {ms : List Method} {e : String × String} :
    e ∈ table ms ↔ ∃ m ∈ ms, m.kind? = some .query ∧ (wireName m, respText m) = e := by
  simp only [table, mem_variantsOf, List.mem_map, and_assoc]

/-- each query is mapped to the type given in `resp=`, else to the first type argument of its result type -/
theorem responses_value (ms : List Method) (m : Method) (hm : m ∈ ms) (hk : m.kind? = some .query) :
    (wireName m, respText m) ∈ table ms :=
  mem_table.mpr ⟨m, hm, hk, rfl⟩

theorem explicit_resp_wins (m : Method) (a : MsgAttr) (r : String) (hm : m.msg = some a) (hr : a.resp = some r) (hs : r ≠ "Self") :
    respText m = r := by
  simp [respText, respTy, hm, hr, tyRender, stripSelf, stripSegs, stripTys, segsRender, argsRender, hs]

/-- **contract level = union of the parts**: an entry is in the contract-level table iff it is in the table of
the contract or of one declared interface -/
theorem contract_table_is_union (p : Program) (e : String × String) :
    e ∈ contractTable p ↔ (e ∈ table p.contract.methods ∨ ∃ r ∈ p.contract.ifaces, e ∈ table (ifaceDef p r).methods) := by
  rw [contractTable, List.flatten_append, ← List.flatMap_def, List.flatten_singleton, List.mem_append,
    List.mem_flatMap, or_comm]

/-- no sendable name appears that is not a query of some part -/
theorem contract_keys_are_query_names (p : Program) (k : String) (hk : k ∈ (contractTable p).map Prod.fst) :
    (∃ m ∈ p.contract.methods, m.kind? = some .query ∧ wireName m = k) ∨
    (∃ r ∈ p.contract.ifaces, ∃ m ∈ (ifaceDef p r).methods, m.kind? = some .query ∧ wireName m = k) := by
  simp only [List.mem_map, contract_table_is_union, mem_table] at hk
  obtain ⟨_, ⟨m, hm, hq, rfl⟩ | ⟨r, hr, m, hm, hq, rfl⟩, rfl⟩ := hk
  · exact .inl ⟨m, hm, hq, rfl⟩
  · exact .inr ⟨r, hr, m, hm, hq, rfl⟩

/-- the contract-level schema lists the parts in declaration order, the contract last -/
theorem any_of_order (k : Kind) (p : Program) :
    anyOf k p = (p.contract.ifaces.map fun r => (ifaceDef p r).name ++ msgTypeName k) ++ [msgTypeName k] := rfl

end C16
