import Sylvia.Extracted.ReplyParamFns
/-!
# Where a reply handler's `#[sv::data]` / `#[sv::payload(raw)]` parameters may stand, on the regenerated code of `reply.rs` (C18, C09)

`Extracted.ReplyParamFns.MsgVariant.as_data_field` and `assert_no_redundant_params` are rewritten from the current source on every
run; `emit_error!` is a diagnostic (message and literal notes) appended to the list returned next to the value; the accessors of
`MsgVariant` / `MsgField` / `MsgAttr` and the attribute parser are parameters. The theorems are the documented rules: the data
parameter is recognised exactly when the method is declared for `success` and the marked parameter is the first one after the
context, it is diagnosed — and not recognised — when it stands elsewhere or the method is declared for another outcome; a raw
payload parameter must be the only payload parameter.
-/
namespace ReplyParamFn
open RustSem Extracted.ReplyOnFns Extracted.ReplyParamFns
open RustExtern (ParsedAttrs)

variable {MV MF MA Attr P D Id : Type}
  (variantFields : MV → List MF) (variantMsgAttr : MV → MA) (attrReplyOn : MA → ReplyOn)
  (fieldAttrs : MF → List Attr) (parsedAttrs : List Attr → ParsedAttrs P D)
  (attrHandlers : MA → List Id) (variantFnName : MV → Id)

def wrongPlace : String :=
  "Wrong usage of `#[sv::data]` attribute. | The `#[sv::data]` attribute can only be used on the first parameter after the `ReplyCtx`."
def wrongScenario : String :=
  "Wrong usage of `#[sv::data]` attribute. | The `#[sv::data]` attribute can only be used in `success` scenario."
def redundantAfter : String :=
  "Redundant payload parameter. | Expected no parameters after the parameter marked with `#[sv::payload(raw)]`."
def redundantBetween : String :=
  "Redundant payload parameter. | Expected no parameters between the parameter marked with `#[sv::data]` and `#[sv::payload(raw)]`."

/-- the first parameter carrying `#[sv::data]`, with its position -/
def dataParam (v : MV) : Option (Nat × MF) :=
  enumFind (fun f => ((parsedAttrs (fieldAttrs f)).data).isSome) (variantFields v)

/-- **C18 / C09: the data parameter.** -/
theorem as_data_field_spec (v : MV) :
    MsgVariant.as_data_field variantFields variantMsgAttr attrReplyOn fieldAttrs parsedAttrs attrHandlers variantFnName v = .ok
      (match dataParam variantFields fieldAttrs parsedAttrs v with
       | none => (none, [])
       | some (i, f) =>
         if attrReplyOn (variantMsgAttr v) = .Success then (if i = 0 then (some f, []) else (none, [wrongPlace]))
         else (none, [wrongScenario])) := by
  unfold MsgVariant.as_data_field dataParam
  cases enumFind (fun f => ((parsedAttrs (fieldAttrs f)).data).isSome) (variantFields v) with
  | none => rfl
  | some p =>
    obtain ⟨i, f⟩ := p
    cases attrReplyOn (variantMsgAttr v) <;> cases i <;> rfl

/-- **C18: a raw payload parameter is the only payload parameter.** No diagnostic for a single parameter or when none is marked; one
diagnostic — never a panic — otherwise, telling whether parameters follow it or stand between it and the data parameter. -/
theorem assert_no_redundant_params_spec (payload : List MF) :
    assert_no_redundant_params variantFields variantMsgAttr attrReplyOn fieldAttrs parsedAttrs attrHandlers variantFnName payload = .ok ((),
      if payload.length = 1 then []
      else match enumFind (fun f => ((parsedAttrs (fieldAttrs f)).payload).isSome) payload with
        | none => []
        | some (0, _) => [redundantAfter]
        | some (_ + 1, _) => [redundantBetween]) := by
  unfold assert_no_redundant_params
  by_cases hl : payload.length = 1
  · rw [if_pos (beq_iff_eq.mpr hl), if_pos hl]
  · rw [if_neg (mt beq_iff_eq.mp hl), if_neg hl]
    cases enumFind (fun f => ((parsedAttrs (fieldAttrs f)).payload).isSome) payload with
    | none => rfl
    | some p => obtain ⟨_ | _, _⟩ := p <;> rfl

/-- **which handler names a reply method serves** (`as_variant_handlers_pair`): the names listed in `handlers=[..]`, in order, or —
when none is listed — the method's own name -/
theorem as_variant_handlers_pair_spec (v : MV) :
    MsgVariant.as_variant_handlers_pair variantFields variantMsgAttr attrReplyOn fieldAttrs parsedAttrs attrHandlers variantFnName v = .ok
      (if (attrHandlers (variantMsgAttr v)).isEmpty then [(v, variantFnName v)] else (attrHandlers (variantMsgAttr v)).map fun h => (v, h), []) := by
  unfold MsgVariant.as_variant_handlers_pair
  rw [mapRes_ok (g := fun h => (v, h)) (h := fun _ => rfl)]
  simp only [bind_ok, List.isEmpty_map]
  split <;> rfl

/-- `enumFind` returns the first marked element: nothing before it is marked -/
theorem enumFindFrom_first {α : Type} (p : α → Bool) : ∀ (l : List α) (k i : Nat) (a : α),
    enumFindFrom p k l = some (i, a) → p a = true ∧ k ≤ i ∧ ∀ j, j < i - k → ∀ b, l[j]? = some b → p b = false := by
  intro l k i a h
  obtain ⟨i', rfl, _, hp, hmin⟩ := enumFindFrom_some p h
  exact ⟨hp, Nat.le_add_right k i', (Nat.add_sub_cancel_left (n := k) (m := i')).symm ▸ hmin⟩

/-- non-vacuity: parameters are numbers, the second is marked; on a `success` method that is the wrong place -/
example : MsgVariant.as_data_field (MsgVariant := Unit) (MsgAttr := Unit) (Ident := Nat) (fun _ => [10, 21, 30]) (fun _ => ()) (fun _ => ReplyOn.Success)
    (fun f => [f]) (fun as => (⟨none, if as == [21] then some () else none⟩ : ParsedAttrs Unit Unit)) (fun _ => []) (fun _ => 0) ()
    = .ok (none, [wrongPlace]) := rfl

end ReplyParamFn
