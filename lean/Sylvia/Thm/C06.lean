import Sylvia.Model.EntryPoints
/-!
# C06 — entry points exist exactly for defined, non-overridden kinds and forward calls

`Gen.entryPoints` models `EntryPoints::emit`; its kind parser and default list are the regenerated
tables. The theorems are stated under two named hypotheses about those tables, discharged separately in
`Thm/Obl/Override.lean` and `Thm/Obl/T/epDefaults_documented.lean` (so that a table that drifts from the
documented vocabulary is reported as exactly that obligation):
* `OverrideFaithful` — the override attribute reads kind words like `#[sv::msg(..)]` does;
* `DefaultsDocumented` — the four unconditional entry points.
-/
namespace C06
open Sylvia Gen Extracted

def OverrideFaithful : Prop := ∀ s, lookup overrideParse s = lookup msgTypeNew s
def DefaultsDocumented : Prop := epDefaults = [.instantiate, .exec, .query, .sudo]

/-- kinds the user marked as overridden, read with the documented kind vocabulary -/
def namedKinds (c : Contract) : List Kind := c.overrides.filterMap (lookup msgTypeNew)

/-- instantiate, execute, query, sudo always; migrate / reply precisely when such a handler is declared -/
def defined (c : Contract) : Kind → Bool
  | .migrate => hasHandler c .migrate
  | .reply => hasHandler c .reply
  | _ => true

theorem overridden_eq_named (hf : OverrideFaithful) (c : Contract) : overriddenKinds c = namedKinds c :=
  congrArg (c.overrides.filterMap ·) (funext hf)

theorem entryPoints_eq_filter (hd : DefaultsDocumented) (c : Contract) :
    entryPoints c = [.instantiate, .exec, .query, .sudo, .migrate, .reply].filter
      fun k => defined c k && !(overriddenKinds c).contains k := by
  show _ = List.filter _ ([Kind.instantiate, .exec, .query, .sudo] ++ [.migrate] ++ [.reply])
  rw [List.filter_append, List.filter_append, entryPoints, hd]
  -- `congr` closes the first summand by `rfl`: `defined c` computes to `true` on the four defaults
  congr 2 <;> simp only [List.filter_cons, List.filter_nil, defined]

/-- **C06, existence.** For every contract (any override list, in any order, with repetitions, any
handlers): an entry point of kind `k` is emitted iff `k` is defined and was not overridden. -/
theorem ep_iff (hf : OverrideFaithful) (hd : DefaultsDocumented) (c : Contract) (k : Kind) :
    k ∈ entryPoints c ↔ (defined c k = true ∧ k ∉ namedKinds c) := by
  have all : k ∈ [.instantiate, .exec, .query, .sudo, .migrate, .reply] := by cases k <;> decide
  rw [entryPoints_eq_filter hd, overridden_eq_named hf, List.mem_filter]
  simp [all]

theorem mem_namedKinds_cons (c : Contract) (w : Str) (k : Kind) :
    k ∈ namedKinds { c with overrides := w :: c.overrides } ↔ lookup msgTypeNew w = some k ∨ k ∈ namedKinds c := by
  simp only [namedKinds, List.mem_filterMap, List.mem_cons, or_and_right, exists_or, exists_eq_left]

/-- Overriding one kind never removes or adds an entry point of another kind. -/
theorem override_local (hf : OverrideFaithful) (hd : DefaultsDocumented) (c : Contract) (w : Str) (k : Kind)
    (hk : lookup msgTypeNew w ≠ some k) :
    k ∈ entryPoints { c with overrides := w :: c.overrides } ↔ k ∈ entryPoints c := by
  rw [ep_iff hf hd, ep_iff hf hd, mem_namedKinds_cons, or_iff_right hk]
  -- `defined` reads only the methods
  rfl

/-- … and it does remove the entry point of the kind it names. -/
theorem override_removes (hf : OverrideFaithful) (hd : DefaultsDocumented) (c : Contract) (w : Str) (k : Kind)
    (hk : lookup msgTypeNew w = some k) :
    k ∉ entryPoints { c with overrides := w :: c.overrides } := by
  rw [ep_iff hf hd, mem_namedKinds_cons]
  exact fun h => h.2 (.inl hk)

/-- no entry point is emitted twice -/
theorem ep_nodup (hd : DefaultsDocumented) (c : Contract) : (entryPoints c).Nodup := by
  rw [entryPoints_eq_filter hd]
  exact List.filter_sublist.nodup (by decide)

/-- Non-vacuity: a contract with a migrate handler, overriding `sudo`, gets five entry points. -/
def exampleContract : Contract :=
  { name := "C", overrides := [[115, 117, 100, 111]],
    methods := [({ name := [], msg := some ({ kind := Kind.migrate } : MsgAttr) } : Method)] }

example : entryPoints exampleContract = [.instantiate, .exec, .query, .migrate] := by decide

end C06
