import Sylvia.Model.Runtime
import Sylvia.Thm.C02
/-!
# C10 — remote helpers build messages the target contract accepts and routes identically
-/
namespace C10
open Sylvia Sylvia.Runtime Sylvia.Gen Sylvia.Dispatch Sylvia.Serde

/-- the execute message is addressed to the handle's address, carries the funds set last (none if never set) and the given body -/
theorem executor_msg_fields {ι : Type} (r : Remote ι) (sets : List String) (body : String) :
    (executorBuild r sets body).contractAddr = r.addr ∧
    (executorBuild r sets body).body = body ∧
    (executorBuild r [] body).funds = "" ∧
    (∀ f, (executorBuild r (sets ++ [f]) body).funds = f) :=
  ⟨rfl, rfl, rfl, fun _ => congrArg (·.getD "") List.getLast?_concat⟩

/-- **the body is routed by the target to that same method with equal arguments**: the helper serialises
`Api::Exec::<method>(args)`, i.e. the document of `C02.dispatch_exact`; restated here for the execute entry point -/
theorem executor_routes (p : Program) (hf : C03.ListsFaithful (parts .exec p)) (hd : C03.ListsDisjoint (parts .exec p))
    (i : Nat) (ms : List Method) (hms : (partMethods .exec p)[i]? = some ms) (vi : Nat) (m : Method) (hm : ms[vi]? = some m)
    (hwires : ((ms.map variantSpec).map (·.wire)).Nodup) (hargs : (m.args.map (·.name)).Nodup)
    (hwf : ∀ a ∈ m.args, WFTy (fieldSpec a).ty) (cs : List Json) (hlen : m.args.length = cs.length)
    (hcan : ∀ q ∈ (m.args.map fieldSpec).zip cs, decodeVal false q.1.ty q.2 = some q.2) (c : CtxIn) :
    route p .exec (encodeEnum (ms.map variantSpec) vi (pairUp (m.args.map fieldSpec) cs)) c =
      .ran { handler := partId p .exec i ++ "." ++ Casing.toString m.name, kind := .exec,
             args := pairUp (m.args.map fieldSpec) cs, ctx := c } m i :=
  C02.dispatch_exact p .exec (Or.inl rfl) hf hd i ms hms vi m hm hwires hargs hwf cs hlen hcan c

/-- same for the query helper (smart query body) -/
theorem querier_routes (p : Program) (hf : C03.ListsFaithful (parts .query p)) (hd : C03.ListsDisjoint (parts .query p))
    (i : Nat) (ms : List Method) (hms : (partMethods .query p)[i]? = some ms) (vi : Nat) (m : Method) (hm : ms[vi]? = some m)
    (hwires : ((ms.map variantSpec).map (·.wire)).Nodup) (hargs : (m.args.map (·.name)).Nodup)
    (hwf : ∀ a ∈ m.args, WFTy (fieldSpec a).ty) (cs : List Json) (hlen : m.args.length = cs.length)
    (hcan : ∀ q ∈ (m.args.map fieldSpec).zip cs, decodeVal false q.1.ty q.2 = some q.2) (c : CtxIn) :
    route p .query (encodeEnum (ms.map variantSpec) vi (pairUp (m.args.map fieldSpec) cs)) c =
      .ran { handler := partId p .query i ++ "." ++ Casing.toString m.name, kind := .query,
             args := pairUp (m.args.map fieldSpec) cs, ctx := c } m i :=
  C02.dispatch_exact p .query (Or.inr (Or.inl rfl)) hf hd i ms hms vi m hm hwires hargs hwf cs hlen hcan c

/-- instantiate builder: code id and arguments as given, label empty when unset, salt only in the salted form -/
theorem builder_defaults (msg : String) (code : Nat) :
    ({ msg := msg, codeId := code } : InstBuilder).build =
      { codeId := code, msg := msg, admin := none, label := "", funds := "", salt := none } := rfl

theorem build2_adds_salt (b : InstBuilder) (salt : String) :
    (b.build2 salt).salt = some salt ∧ { b.build2 salt with salt := none } = b.build := ⟨rfl, rfl⟩

/-- the last setter of a field wins, setters of different fields commute -/
theorem last_writer_wins (b : InstBuilder) (s t : String) :
    ((b.set (.label s)).set (.label t)) = b.set (.label t) ∧
    ((b.set (.admin s)).set (.admin t)) = b.set (.admin t) ∧
    ((b.set (.funds s)).set (.funds t)) = b.set (.funds t) := ⟨rfl, rfl, rfl⟩

theorem setters_commute (b : InstBuilder) (l a f : String) :
    (b.set (.label l)).set (.admin a) = (b.set (.admin a)).set (.label l) ∧
    (b.set (.label l)).set (.funds f) = (b.set (.funds f)).set (.label l) ∧
    (b.set (.admin a)).set (.funds f) = (b.set (.funds f)).set (.admin a) := ⟨rfl, rfl, rfl⟩

/-- what a whole setter sequence produces: per field the last value set, else the default -/
theorem setters_fold (b : InstBuilder) (ss : List Setter) :
    (ss.foldl InstBuilder.set b).msg = b.msg ∧ (ss.foldl InstBuilder.set b).codeId = b.codeId := by
  induction ss generalizing b with
  | nil => exact ⟨rfl, rfl⟩
  | cons s r ih => cases s <;> exact ih _

/-- the admin helpers address the handle's contract -/
theorem admin_helpers {ι : Type} (r : Remote ι) (a : String) :
    r.updateAdmin a = .update r.addr a ∧ r.clearAdmin = .clear r.addr := ⟨rfl, rfl⟩

end C10
