import Sylvia.Thm.C11
import Sylvia.Util.Bytes
import Sylvia.Model.Kinds
/-!
# C11 under every cargo feature set

`CosmosMsg` variants and the converting arms of `IntoMsg::into_msg` are both compiled conditionally. `variantFeatures`
is cosmwasm-std 2.2's own table (trusted; recorded in DESIGN §6); the arms' features are regenerated from
`sylvia/src/into_response.rs` (`Extracted.convertibleCfg`). The theorems below hold for every feature set `F`.
-/
namespace C11
open Sylvia Sylvia.Runtime

/-- the cargo features (of cosmwasm-std, forwarded one-to-one by sylvia's features of the same name) under which a
variant of `CosmosMsg` exists -/
def variantFeatures : MsgKind → List Str
  | .bank | .wasm | .custom => []
  | .staking | .distribution => [bytes! "staking"]
  | .ibc | .gov | .stargate => [bytes! "stargate"]
  | .any => [bytes! "cosmwasm_2_0"]

def existsUnder (F : List Str) (k : MsgKind) : Bool := (variantFeatures k).all F.contains

/-- the arms of `into_msg` that are compiled under `F` -/
def armsUnder (cfg : List (MsgKind × List Str)) (F : List Str) : List MsgKind :=
  (cfg.filter fun r => r.2.all F.contains).map Prod.fst

def CompleteUnder (cfg : List (MsgKind × List Str)) (F : List Str) : Prop :=
  ∀ k, k ≠ .custom → existsUnder F k = true → (armsUnder cfg F).contains k = true

/-- **C11 for every feature set.** Whatever features sylvia is built with: a response whose messages are all of kinds
that exist under those features, none of them custom, is converted unchanged. -/
theorem into_response_ok_under (cfg : List (MsgKind × List Str)) (F : List Str) (hc : CompleteUnder cfg F) (r : Response)
    (h : ∀ m ∈ r.messages, m.kind ≠ .custom ∧ existsUnder F m.kind = true) :
    intoResponse (armsUnder cfg F) r = .ok r := by
  rw [intoResponse_eq _ r fun m hm hk => hc _ hk (h m hm).2, if_neg fun ⟨m, hm, hk⟩ => (h m hm).1 hk]

/-- the eight feature sets over {staking, stargate, cosmwasm_2_0} -/
def featureSets : List (List Str) :=
  [[], [bytes! "staking"], [bytes! "stargate"], [bytes! "cosmwasm_2_0"],
   [bytes! "staking", bytes! "stargate"], [bytes! "staking", bytes! "cosmwasm_2_0"], [bytes! "stargate", bytes! "cosmwasm_2_0"],
   [bytes! "staking", bytes! "stargate", bytes! "cosmwasm_2_0"]]

def allKinds : List MsgKind := [.bank, .custom, .staking, .distribution, .stargate, .ibc, .wasm, .gov, .any]

/-- executable form of `CompleteUnder` over all feature sets -/
def completeAllB (cfg : List (MsgKind × List Str)) : Bool :=
  featureSets.all fun F => allKinds.all fun k => k == .custom || !existsUnder F k || (armsUnder cfg F).contains k

theorem completeAllB_sound (cfg : List (MsgKind × List Str)) (h : completeAllB cfg = true) :
    ∀ F ∈ featureSets, CompleteUnder cfg F := by
  intro F hF k hk hex
  have hmem : k ∈ allKinds := by cases k <;> decide
  have := List.all_eq_true.mp (List.all_eq_true.mp h F hF) k hmem
  simpa [beq_false_of_ne hk, hex] using this

/-- non-vacuity: the documented arm table is complete under every feature set; dropping the feature of one arm is not -/
example : completeAllB [(.wasm, []), (.bank, []), (.staking, [bytes! "staking"]), (.distribution, [bytes! "staking"]),
    (.ibc, [bytes! "stargate"]), (.any, [bytes! "cosmwasm_2_0"]), (.gov, [bytes! "stargate"]), (.stargate, [bytes! "stargate"])] = true := by decide
example : completeAllB [(.wasm, []), (.bank, []), (.staking, [bytes! "staking"]), (.distribution, [bytes! "stargate"]),
    (.ibc, [bytes! "stargate"]), (.any, [bytes! "cosmwasm_2_0"]), (.gov, [bytes! "stargate"]), (.stargate, [bytes! "stargate"])] = false := by decide

end C11
