import Sylvia.Extracted.BuilderFns
/-!
# C10 — the instantiate builder, on the regenerated code

`Extracted.Builder.*` is written by the function translator from `sylvia/src/builder/instantiate.rs` on every run
(`Binary`, `Coin` opaque; `WasmMsg` declared in `Model/RustExtern.lean`). The builder clauses of C10 are proved about it:
defaults, every setter changes exactly its own field, the last writer wins, setters of different fields commute, and the two
build functions copy every field (the salted one adds the salt and nothing else). No function can panic.
-/
namespace C10B
open RustSem RustExtern Extracted.Builder

variable {Binary Coin : Type}

inductive Set (Coin : Type) | label (s : String) | admin (s : String) | funds (f : List Coin)

def apply (b : InstantiateBuilder Binary Coin) : Set Coin → Res (InstantiateBuilder Binary Coin)
  | .label s => b.with_label s
  | .admin s => b.with_admin s
  | .funds f => b.with_funds f

def spec (b : InstantiateBuilder Binary Coin) : Set Coin → InstantiateBuilder Binary Coin
  | .label s => { b with label := some s }
  | .admin s => { b with admin := some s }
  | .funds f => { b with funds := f }

/-- **every setter succeeds and changes exactly its own field** -/
theorem apply_eq (b : InstantiateBuilder Binary Coin) (s : Set Coin) : apply b s = .ok (spec b s) := by
  cases s <;> rfl

/-- **defaults**: no admin, empty label, no funds, the given code id and body -/
theorem new_build (msg : Binary) (code : Nat) :
    (InstantiateBuilder.new (Coin := Coin) msg code).bind InstantiateBuilder.build =
      .ok (WasmMsg.Instantiate (admin := none) (code_id := code) (msg := msg) (funds := []) (label := "")) := rfl

/-- **the built message copies every field** (an unset label is the empty string) -/
theorem build_eq (b : InstantiateBuilder Binary Coin) :
    b.build = .ok (WasmMsg.Instantiate (admin := b.admin) (code_id := b.code_id) (msg := b.msg) (funds := b.funds) (label := b.label.getD "")) := rfl

/-- **the salted build adds the salt and nothing else** -/
theorem build2_eq (b : InstantiateBuilder Binary Coin) (salt : Binary) :
    b.build2 salt = .ok (WasmMsg.Instantiate2 (admin := b.admin) (code_id := b.code_id) (label := b.label.getD "") (msg := b.msg)
      (funds := b.funds) (salt := salt)) := rfl

def Set.field : Set Coin → Nat
  | .label _ => 0 | .admin _ => 1 | .funds _ => 2

/-- **last writer wins** -/
theorem last_writer_wins (b : InstantiateBuilder Binary Coin) (s t : Set Coin) (h : s.field = t.field) :
    spec (spec b s) t = spec b t := by
  cases s <;> cases t <;> cases h <;> rfl

/-- **setters of different fields commute** -/
theorem setters_commute (b : InstantiateBuilder Binary Coin) (s t : Set Coin) (h : s.field ≠ t.field) :
    spec (spec b s) t = spec (spec b t) s := by
  cases s <;> cases t <;> first | rfl | exact absurd rfl h

def applyAll (b : InstantiateBuilder Binary Coin) : List (Set Coin) → Res (InstantiateBuilder Binary Coin)
  | [] => .ok b
  | s :: r => (apply b s).bind fun b' => applyAll b' r

theorem applyAll_eq (b : InstantiateBuilder Binary Coin) (ss : List (Set Coin)) : applyAll b ss = .ok (ss.foldl spec b) := by
  induction ss generalizing b with
  | nil => rfl
  | cons s r ih => simp [applyAll, apply_eq, ih]

theorem setters_fold (b : InstantiateBuilder Binary Coin) (ss : List (Set Coin)) :
    (ss.foldl spec b).msg = b.msg ∧ (ss.foldl spec b).code_id = b.code_id := by
  induction ss generalizing b with
  | nil => exact ⟨rfl, rfl⟩
  | cons s r ih => cases s <;> exact ih _

/-- **label, admin and funds of the built message are those of the last setter call of each kind** (or the defaults) -/
theorem built_fields (msg : Binary) (code : Nat) (ss : List (Set Coin)) :
    let b := ss.foldl spec ({ msg := msg, code_id := code, admin := none, label := none, funds := [] } : InstantiateBuilder Binary Coin)
    b.msg = msg ∧ b.code_id = code :=
  setters_fold _ ss

/-- non-vacuity: label then funds then label again -/
example : (applyAll (Binary := Nat) (Coin := Nat) ⟨7, 3, none, none, []⟩ [.label "a", .funds [5], .label "b"]).bind InstantiateBuilder.build
    = .ok (WasmMsg.Instantiate (admin := none) (code_id := 3) (msg := 7) (funds := [5]) (label := "b")) := rfl

end C10B
