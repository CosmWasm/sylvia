import Sylvia.Model.Dispatch
import Sylvia.Lemmas.Gen
/-!
# C04 — handlers are reachable only through the entry point of their own kind
-/
namespace C04
open Sylvia Sylvia.Gen Sylvia.Dispatch Sylvia.Serde

theorem partMethods_kind (k : Kind) (p : Program) (i v : Nat) (ms : List Method) (m : Method)
    (h1 : (partMethods k p)[i]? = some ms) (h2 : ms[v]? = some m) : m.kind? = some k := by
  have hms : ms ∈ partMethods k p := List.mem_of_getElem? h1
  have hm : m ∈ ms := List.mem_of_getElem? h2
  simp only [partMethods, List.mem_append, List.mem_map, List.mem_singleton] at hms
  rcases hms with ⟨r, _, rfl⟩ | rfl <;> exact (mem_variantsOf.mp hm).2

theorem callOfWrapped_kind {p : Program} {k : Kind} {i v : Nat} {fs : List (String × Json)} {c : CtxIn} {call : Call}
    {m : Method} (h : callOfWrapped p k i v fs c = some (call, m)) : m.kind? = some k ∧ call.kind = k := by
  unfold callOfWrapped at h
  split at h
  · split at h
    · cases h
      exact ⟨partMethods_kind k p i v _ _ ‹_› ‹_›, rfl⟩
    · cases h
  · cases h

/-- **C04.** Whatever document arrives at the entry point of kind `k` (any program, any JSON, any context):
if a handler runs at all, it is a method annotated with that very kind — even when methods of other
kinds share its name or argument shape, in the contract or in any interface. -/
theorem kind_separation (p : Program) (k : Kind) (doc : Json) (c : CtxIn) (call : Call) (m : Method) (i : Nat)
    (h : route p k doc c = .ran call m i) : m.kind? = some k ∧ call.kind = k := by
  cases k
  case exec | query | sudo =>
    simp only [route] at h
    split at h
    · split at h
      · cases h
        exact callOfWrapped_kind ‹_›
      · cases h
    · cases h
  case instantiate | migrate =>
    simp only [route] at h
    split at h
    · split at h
      · cases h
        exact ⟨(mem_variantsOf (ms := p.contract.methods).mp (by simp [*])).2, rfl⟩
      · cases h
    · cases h
  case reply => cases h

/-- corollary in the property's own words: a document sent to the `k₂` entry point never runs a `k₁` handler -/
theorem no_cross_kind (p : Program) (k₁ k₂ : Kind) (hne : k₁ ≠ k₂) (doc : Json) (c : CtxIn) (call : Call) (m : Method) (i : Nat)
    (h : route p k₂ doc c = .ran call m i) : m.kind? ≠ some k₁ :=
  fun hk => hne (Option.some.inj (hk.symm.trans (kind_separation p k₂ doc c call m i h).1))

end C04
