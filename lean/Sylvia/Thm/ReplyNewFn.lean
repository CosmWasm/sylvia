import Sylvia.Extracted.ReplyNewFns
/-!
# `ReplyData::new`, on the regenerated code of `reply.rs` (C07, C08, C18)

The table entry a reply method opens: `Extracted.ReplyNewFns.ReplyData.new` is rewritten from the current source on every run, together
with the two functions it calls (`as_data_field`, `assert_no_redundant_params`); diagnostics are the list returned next to the value.
`new_spec` is the model's `Reply.newEntry`, read off the code: the data parameter is what `as_data_field` recognises; the payload
parameters are the method's parameters without the first one when a data parameter was recognised or the method is not declared for
`success` (its first parameter is then the error text / the result), all of them otherwise; the entry lists the method under its
outcome; a missing payload and a misplaced raw payload parameter are diagnosed, after the data diagnostics, in that order; nothing panics.
-/
namespace ReplyNewFn
open RustSem Extracted.ReplyOnFns Extracted.ReplyNewFns
open RustExtern (ParsedAttrs)

variable {MV MF MA Attr P D Id FT : Type} [DecidableEq FT]
  (variantFields : MV → List MF) (variantMsgAttr : MV → MA) (attrReplyOn : MA → ReplyOn)
  (fieldAttrs : MF → List Attr) (parsedAttrs : List Attr → ParsedAttrs P D) (variantFnName : MV → Id) (fieldTy : MF → FT)

def missingPayload : String :=
  "Missing payload parameter. | Expected at least one payload parameter at the end of parameter list."

def wrongPlace : String :=
  "Wrong usage of `#[sv::data]` attribute. | The `#[sv::data]` attribute can only be used on the first parameter after the `ReplyCtx`."
def wrongScenario : String :=
  "Wrong usage of `#[sv::data]` attribute. | The `#[sv::data]` attribute can only be used in `success` scenario."
def redundantAfter : String :=
  "Redundant payload parameter. | Expected no parameters after the parameter marked with `#[sv::payload(raw)]`."
def redundantBetween : String :=
  "Redundant payload parameter. | Expected no parameters between the parameter marked with `#[sv::data]` and `#[sv::payload(raw)]`."

/-- the two callees, as regenerated with `new` (`Thm/ReplyParamFn.lean` is about the copies regenerated on their own) -/
theorem as_data_field_spec (v : MV) :
    Extracted.ReplyNewFns.MsgVariant.as_data_field variantFields variantMsgAttr attrReplyOn fieldAttrs parsedAttrs variantFnName fieldTy v = .ok
      (match enumFind (fun f => ((parsedAttrs (fieldAttrs f)).data).isSome) (variantFields v) with
       | none => (none, [])
       | some (i, f) =>
         if attrReplyOn (variantMsgAttr v) = .Success then (if i = 0 then (some f, []) else (none, [wrongPlace]))
         else (none, [wrongScenario])) := by
  unfold Extracted.ReplyNewFns.MsgVariant.as_data_field
  cases enumFind (fun f => ((parsedAttrs (fieldAttrs f)).data).isSome) (variantFields v) with
  | none => rfl
  | some p =>
    obtain ⟨i, f⟩ := p
    cases attrReplyOn (variantMsgAttr v) <;> cases i <;> rfl

theorem assert_no_redundant_params_spec (payload : List MF) :
    assert_no_redundant_params variantFields variantMsgAttr attrReplyOn fieldAttrs parsedAttrs variantFnName fieldTy payload = .ok ((),
      if payload.length = 1 then []
      else match enumFind (fun f => ((parsedAttrs (fieldAttrs f)).payload).isSome) payload with
        | none => []
        | some (0, _) => [redundantAfter]
        | some (_ + 1, _) => [redundantBetween]) := by
  unfold assert_no_redundant_params
  by_cases hl : payload.length = 1
  · rw [if_pos (beq_iff_eq.mpr hl), if_pos hl]
  · rw [if_neg (mt beq_iff_eq.mp hl), if_neg hl]
    cases enumFind (fun f => ((parsedAttrs (fieldAttrs f)).payload).isSome) payload with
    | none => rfl
    | some p => obtain ⟨_ | _, _⟩ := p <;> rfl

/-- **`ReplyData::new`** in terms of what its two callees return -/
theorem new_spec (rid : Id) (v : MV) (hid : Id) (data : Option MF) (d1 : List String) (d3 : List MF → List String)
    (h1 : Extracted.ReplyNewFns.MsgVariant.as_data_field variantFields variantMsgAttr attrReplyOn fieldAttrs parsedAttrs variantFnName fieldTy v = .ok (data, d1))
    (h3 : ∀ pl, assert_no_redundant_params variantFields variantMsgAttr attrReplyOn fieldAttrs parsedAttrs variantFnName fieldTy pl = .ok ((), d3 pl)) :
    let payload := if data.isSome || attrReplyOn (variantMsgAttr v) != ReplyOn.Success then (variantFields v).drop 1 else variantFields v
    ReplyData.new variantFields variantMsgAttr attrReplyOn fieldAttrs parsedAttrs variantFnName fieldTy rid v hid
      = .ok ({ reply_id := rid, handler_id := hid, handlers := [(variantFnName v, attrReplyOn (variantMsgAttr v))], data := data, payload := payload },
             d1 ++ (if payload.isEmpty then [missingPayload] else []) ++ d3 payload) := by
  simp only [ReplyData.new, h1, h3, bind_ok, List.nil_append]
  cases data.isSome || attrReplyOn (variantMsgAttr v) != ReplyOn.Success <;>
    simp only [Bool.false_eq_true, if_false, if_true] <;> split <;> simp only [List.append_nil, missingPayload]

/-- **never panics** -/
theorem new_total (rid : Id) (v : MV) (hid : Id) :
    ∃ r, ReplyData.new variantFields variantMsgAttr attrReplyOn fieldAttrs parsedAttrs variantFnName fieldTy rid v hid = .ok r :=
  ⟨_, new_spec (h1 := as_data_field_spec ..) (h3 := fun _ => assert_no_redundant_params_spec ..) ..⟩

def mismatchedCount : String := "Mismatched quantity of method parameters."
def mismatchedParam : String := "Mismatched parameter in reply handlers."

/-- **`ReplyData::merge`**: a second method joins the entry opened by the first. The entry keeps its own payload parameters; the data
parameter is taken from whichever method declares one (the D4 repair); the new method is listed under its outcome after those already
there; the new method's own diagnostics come first, then a differing number of payload parameters, then every pair of payload parameters
of different type, in order. (The `#[sv::payload(raw)]` marker is not compared: D25.) -/
theorem merge_spec (e : ReplyData Id MF) (h : MV) (first : Id × ReplyOn) (rest : List (Id × ReplyOn)) (he : e.handlers = first :: rest)
    (n : ReplyData Id MF) (dn : List String)
    (hn : ReplyData.new variantFields variantMsgAttr attrReplyOn fieldAttrs parsedAttrs variantFnName fieldTy e.reply_id h e.handler_id = .ok (n, dn)) :
    ReplyData.merge variantFields variantMsgAttr attrReplyOn fieldAttrs parsedAttrs variantFnName fieldTy e h
      = .ok ({ e with data := if e.data.isNone then n.data else e.data,
                      handlers := e.handlers ++ [(variantFnName h, attrReplyOn (variantMsgAttr h))] },
             dn ++ (if e.payload.length != n.payload.length then [mismatchedCount] else [])
                ++ (List.zip e.payload n.payload).filterMap (fun (a, b) => if fieldTy a != fieldTy b then some mismatchedParam else none)) := by
  simp only [ReplyData.merge, he, List.head?, hn, bind_ok, List.nil_append]
  cases e.payload.length != n.payload.length <;> cases e.data.isNone <;>
    simp only [Bool.false_eq_true, if_false, if_true, List.append_nil] <;> rfl

/-- an entry without methods is left alone (the early `return`) -/
theorem merge_empty (e : ReplyData Id MF) (h : MV) (he : e.handlers = []) :
    ReplyData.merge variantFields variantMsgAttr attrReplyOn fieldAttrs parsedAttrs variantFnName fieldTy e h = .ok (e, []) := by
  unfold ReplyData.merge
  simp [he]

end ReplyNewFn
