import Sylvia.Model.Reply
import Sylvia.Extracted.Tables
/-!
# C09 — reply data is extracted according to the declared data mode

`Reply.extractData` is driven by the template class the regenerated guard chain selects for the flags of
`#[sv::data(..)]`. `guards_documented` pins the chain read from the current source to the documented
one; the mode table is then proved for all data bytes and all envelope-parser outcomes (the parsers of
cw_utils are a parameter: `Envelope`).
-/
namespace C09
open Sylvia Sylvia.Reply

/-- the documented guard chain: (raw∧opt) identity, raw, (instantiate∧opt), instantiate, opt, default -/
def documentedGuards : List (Bool × Bool × Bool × Nat × Nat × Bool) :=
  [(true, true, false, 0, 0, false), (true, false, false, 0, 2, false), (false, true, true, 2, 1, true),
   (false, false, true, 2, 2, false), (false, true, false, 1, 1, true), (false, false, false, 1, 2, false)]

/-- obligation over the regenerated table: order and content of the guards in the current source -/
theorem guards_documented : Extracted.dataGuards = documentedGuards := by decide

def cls (p : DataParams) := dataClass documentedGuards p

/-- raw modes pass the bytes through; the optional one also passes absence through -/
theorem raw_opt_mode (d : Option String) (env : Envelope) :
    extractData (cls { raw := true, opt := true }) d env = .ok (.rawOpt d) := by
  cases d <;> rfl

theorem raw_mode (env : Envelope) :
    (∀ d, extractData (cls { raw := true }) (some d) env = .ok (.raw d)) ∧
    extractData (cls { raw := true }) none env = .error .missingData := ⟨fun _ => rfl, rfl⟩

/-- typed mode (`#[sv::data]`): execute envelope, then the JSON inside; absence and undecodable data are errors -/
theorem typed_mode (d : String) :
    extractData (cls {}) none .bad = .error .missingData ∧
    (∀ j, extractData (cls {}) (some d) (.exec (some j)) = .ok (.typed j)) ∧
    extractData (cls {}) (some d) (.exec none) = .error .missingData ∧
    extractData (cls {}) (some d) .bad = .error .badEnvelope ∧
    (∀ a i, extractData (cls {}) (some d) (.inst a i) = .error .badEnvelope) :=
  ⟨rfl, fun _ => rfl, rfl, rfl, fun _ _ => rfl⟩

/-- `opt`: absence becomes `None`, present data is decoded like the typed mode and wrapped in `Some` -/
theorem opt_mode (d : String) (env : Envelope) :
    extractData (cls { opt := true }) none env = .ok (.typedOpt none) ∧
    (∀ j, extractData (cls { opt := true }) (some d) (.exec (some j)) = .ok (.typedOpt (some j))) ∧
    extractData (cls { opt := true }) (some d) .bad = .error .badEnvelope :=
  ⟨rfl, fun _ => rfl, rfl⟩

/-- instantiate modes use the instantiate envelope -/
theorem instantiate_mode (d : String) :
    extractData (cls { instantiate := true }) none .bad = .error .missingData ∧
    (∀ a i, extractData (cls { instantiate := true }) (some d) (.inst a i) = .ok (.inst a i)) ∧
    extractData (cls { instantiate := true }) (some d) .bad = .error .badEnvelope ∧
    (∀ j, extractData (cls { instantiate := true }) (some d) (.exec j) = .error .badEnvelope) :=
  ⟨rfl, fun _ _ => rfl, rfl, fun _ => rfl⟩

theorem instantiate_opt_mode (d : String) (env : Envelope) :
    extractData (cls { instantiate := true, opt := true }) none env = .ok (.instOpt none) ∧
    (∀ a i, extractData (cls { instantiate := true, opt := true }) (some d) (.inst a i) = .ok (.instOpt (some (a, i)))) ∧
    extractData (cls { instantiate := true, opt := true }) (some d) .bad = .error .badEnvelope :=
  ⟨rfl, fun _ _ => rfl, rfl⟩

theorem extractData_error {cls : Nat × Nat × Bool} {data : Option String} {env : Envelope} {o : Outcome}
    (h : extractData cls data env = .error o) : o = .missingData ∨ o = .badEnvelope := by
  unfold extractData at h
  split at h <;> (try split at h) <;> cases h <;> simp

/-- **No call on failure.** Whenever the extraction fails, `dispatch_reply` returns that error and no
handler is invoked (the outcome is not a `call`). -/
theorem extract_err_no_call (guards : List (Bool × Bool × Bool × Nat × Nat × Bool)) (tbl : List Entry) (e : Entry)
    (r : ReplyIn) (env : Envelope) (he : tbl[r.id]? = some e) (fn : Name)
    (hf : e.handlers.find? (fun p => p.2 == .success || p.2 == .always) = some (fn, .success))
    (a : Arg) (hd : e.data = some a) (ev msgr : Nat) (data : Option String) (hr : r.result = .ok ev data msgr)
    (o : Outcome) (hx : extractData (dataClass guards (a.data.getD {})) data env = .error o) :
    dispatchReply guards tbl r env true = o ∧ (o = .missingData ∨ o = .badEnvelope) :=
  ⟨by simp [dispatchReply, he, hr, hf, hd, hx], extractData_error hx⟩

end C09
