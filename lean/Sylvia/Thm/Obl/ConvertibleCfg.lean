import Sylvia.Extracted.Tables
import Sylvia.Thm.C11Features
/-! Obligation: under every cargo feature set, every `CosmosMsg` variant that exists (except `Custom`) has a converting
arm of `IntoMsg::into_msg` compiled in (the arms' `cfg` attributes are re-read from the source on every run). -/
namespace Obl
theorem convertible_complete_under_all_features : ∀ F ∈ C11.featureSets, C11.CompleteUnder Extracted.convertibleCfg F :=
  C11.completeAllB_sound _ (by decide +kernel)
end Obl
