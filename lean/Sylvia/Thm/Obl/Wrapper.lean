import Sylvia.Extracted.Tables
import Sylvia.Util.Bytes
/-! The contract-level message's hand-written `Deserialize`, the order in which its parts are consulted and the
build-time overlap assertion have the source forms that `Serde.wrapperDecode`, `Gen.parts` and `Inter` model. -/
namespace Obl
open Sylvia Extracted

theorem wrapper_forms : wrapperForms =
    [(bytes! "deserialize", true), (bytes! "attempt-contract", true), (bytes! "parts-order", true), (bytes! "overlap-assert", true),
     (bytes! "attempt-interface", true)] := by decide +kernel

end Obl
