import Sylvia.Extracted.Tables
import Sylvia.Util.Bytes
import Sylvia.Model.Multitest
/-! Obligations tying the multitest model to the current source of `sylvia-derive/src/{contract,interface}/mt.rs`
and `sylvia/src/multitest.rs` (tables regenerated on every run). -/
namespace Obl
open Sylvia Extracted

/-- no call site unwraps a downcast of the chain's error, and `downcast_error` has the three-way form of `Mt.downcastError` -/
theorem mt_no_unwrapping_downcast : mtUnwrapSites = [] ∧ downcastErrorForm = true := by decide +kernel

/-- every proxy method builds its message with the like-named constructor (`new` for migrate) from its own parameters,
and hands it to the chain operation of its own kind: what `Mt.lower` does -/
theorem mt_proxy_ops : mtProxyOps =
    [(bytes! "contract/mt.rs", bytes! "exec", bytes! "#name", bytes! "exec-proxy"),
     (bytes! "contract/mt.rs", bytes! "query", bytes! "#name", bytes! "smart-query"),
     (bytes! "contract/mt.rs", bytes! "sudo", bytes! "#name", bytes! "wasm-sudo"),
     (bytes! "contract/mt.rs", bytes! "migrate", bytes! "new", bytes! "migrate-proxy"),
     (bytes! "interface/mt.rs", bytes! "exec", bytes! "#name", bytes! "exec-proxy"),
     (bytes! "interface/mt.rs", bytes! "query", bytes! "#name", bytes! "smart-query"),
     (bytes! "interface/mt.rs", bytes! "sudo", bytes! "#name", bytes! "wasm-sudo"),
     (bytes! "interface/mt.rs", bytes! "migrate", bytes! "new", bytes! "migrate-proxy")] := by decide +kernel

/-- the defaults of `CodeId::instantiate` are those of `Mt.InstOpts` -/
theorem mt_inst_defaults : mtInstDefaults =
    [(bytes! "funds", bytes! "&[]"), (bytes! "label", bytes! "\"Contract\""), (bytes! "admin", bytes! "None"), (bytes! "salt", bytes! "None")] ∧
    (({} : Mt.InstOpts).funds = 0 ∧ ({} : Mt.InstOpts).label = "Contract" ∧ ({} : Mt.InstOpts).admin = none ∧ ({} : Mt.InstOpts).salt = none) :=
  ⟨by decide +kernel, rfl, rfl, rfl, rfl⟩

/-- each setter replaces exactly its own field -/
theorem mt_inst_setters : mtInstSetters =
    [(bytes! "with_funds", bytes! "funds"), (bytes! "with_label", bytes! "label"), (bytes! "with_admin", bytes! "admin"), (bytes! "with_salt", bytes! "salt")] := by decide +kernel

/-- the call forms the model mirrors are the ones in the source -/
theorem mt_forms : ∀ f ∈ mtForms, f.2 = true := by decide +kernel

theorem mt_forms_all : mtForms.map Prod.fst =
    [bytes! "instantiate-call", bytes! "instantiate2-call", bytes! "ExecProxy::new", bytes! "ExecProxy::with_funds", bytes! "ExecProxy::call",
     bytes! "MigrateProxy::call", bytes! "default-dispatch", bytes! "override-dispatch"] := by decide +kernel

/-- `impl cw_multi_test::Contract`: each operation runs the override or the default dispatch of its own kind -/
theorem mt_contract_bodies : mtContractBodies =
    [(bytes! "execute", bytes! "exec"), (bytes! "instantiate", bytes! "instantiate"), (bytes! "query", bytes! "query"),
     (bytes! "sudo", bytes! "sudo"), (bytes! "reply", bytes! "reply"), (bytes! "migrate", bytes! "migrate")] := by decide +kernel

end Obl
