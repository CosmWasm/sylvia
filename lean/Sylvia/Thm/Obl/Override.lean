import Sylvia.Extracted.Tables
import Sylvia.Lemmas.Tables
namespace Obl
open Sylvia Extracted

/-- The override attribute's kind parser agrees with the documented kind vocabulary on every word. -/
theorem override_table_faithful : ∀ s, lookup overrideParse s = lookup msgTypeNew s :=
  lookup_eq_of_rowsIn (by decide +kernel) (by decide +kernel)

end Obl
