import Sylvia.Extracted.Tables
import Sylvia.Util.Bytes
namespace Obl
open Sylvia Extracted

/-- `MsgType::emit_ep_name`: the entry-point function of each kind -/
theorem epName_documented : ∀ k ∈ Kind.all, lookup epName k = some (match k with
    | .exec => bytes! "execute" | .query => bytes! "query" | .instantiate => bytes! "instantiate"
    | .migrate => bytes! "migrate" | .reply => bytes! "reply" | .sudo => bytes! "sudo") := by decide +kernel

end Obl
