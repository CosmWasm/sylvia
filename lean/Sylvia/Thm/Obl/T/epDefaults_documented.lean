import Sylvia.Extracted.Tables
namespace Obl
open Sylvia Extracted

/-- the entry points `EntryPoints::emit` writes whether or not a handler exists; discharges `C06.DefaultsDocumented` -/
theorem epDefaults_documented : epDefaults = [.instantiate, .exec, .query, .sudo] := by decide +kernel

end Obl
