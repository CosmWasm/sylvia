import Sylvia.Extracted.Tables
import Sylvia.Util.Bytes
namespace Obl
open Sylvia Extracted

/-- the framework's own attributes (`sv::<name>`) -/
theorem svAttributes_documented : svAttributes = [bytes! "custom", bytes! "error", bytes! "messages", bytes! "msg",
    bytes! "override_entry_point", bytes! "attr", bytes! "msg_attr", bytes! "payload", bytes! "data", bytes! "features"] := by decide +kernel

end Obl
