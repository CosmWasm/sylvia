import Sylvia.Extracted.Tables
import Sylvia.Util.Bytes
namespace Obl
open Sylvia Extracted

/-- `MsgType::emit_msg_wrapper_name`: the contract-level message type of each kind -/
theorem wrapperName_documented : ∀ k ∈ Kind.all, lookup wrapperName k = some (match k with
    | .exec => bytes! "ContractExecMsg" | .query => bytes! "ContractQueryMsg" | .sudo => bytes! "ContractSudoMsg"
    | .instantiate => bytes! "InstantiateMsg" | .migrate => bytes! "MigrateMsg" | .reply => bytes! "ReplyMsg") := by decide +kernel

end Obl
