import Sylvia.Model.Strip
namespace Obl
open Sylvia Extracted

/-- `sv::msg` is itself recognised as a framework attribute (the hypothesis of `C13.strip_idempotent`) -/
theorem msg_is_framework : ∀ a, Strip.isMsgAttr a = true → Strip.isFramework a = true := by
  intro a h
  have hp : a.path = ["sv", "msg"] := by simpa [Strip.isMsgAttr] using h
  unfold Strip.isFramework
  rw [hp]
  decide +kernel

end Obl
