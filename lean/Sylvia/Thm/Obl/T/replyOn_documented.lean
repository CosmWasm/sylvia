import Sylvia.Extracted.Tables
import Sylvia.Util.Bytes
namespace Obl
open Sylvia Extracted

/-- the vocabulary of `reply_on=` in `#[sv::msg(reply, ..)]` (`ReplyOn::new`) -/
theorem replyOn_documented : replyOnNew =
    [(bytes! "success", .success), (bytes! "error", .error), (bytes! "always", .always)] := by decide +kernel

end Obl
