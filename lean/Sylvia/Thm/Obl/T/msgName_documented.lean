import Sylvia.Extracted.Tables
import Sylvia.Util.Bytes
namespace Obl
open Sylvia Extracted

/-- `MsgType::emit_msg_name`: the message type of each kind -/
theorem msgName_documented : ∀ k ∈ Kind.all, lookup msgName k = some (match k with
    | .exec => bytes! "ExecMsg" | .query => bytes! "QueryMsg" | .instantiate => bytes! "InstantiateMsg"
    | .migrate => bytes! "MigrateMsg" | .reply => bytes! "ReplyMsg" | .sudo => bytes! "SudoMsg") := by decide +kernel

end Obl
