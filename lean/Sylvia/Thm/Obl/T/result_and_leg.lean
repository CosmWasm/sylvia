import Sylvia.Extracted.Tables
namespace Obl
open Sylvia Extracted

/-- what a dispatch arm does with the handler's result: only queries are serialised to `Binary`; exec and sudo arms call the
handler directly, query arms through `to_json_binary` (the legs are numbered at `Extracted.dispatchLeg`) -/
theorem result_and_leg : resultIsBinary.all (fun r => r.2 == (r.1 == .query)) = true ∧
    (∀ k ∈ Kind.all, lookup dispatchLeg k = some (match k with
      | .exec | .sudo => 0 | .query => 1 | _ => 2)) := by decide +kernel

end Obl
