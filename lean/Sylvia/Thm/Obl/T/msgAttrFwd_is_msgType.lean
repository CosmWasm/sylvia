import Sylvia.Extracted.Tables
import Sylvia.Lemmas.Tables
namespace Obl
open Sylvia Extracted

/-- `MsgAttrForwarding::parse` reads its kind word as `MsgType::new` does; discharges `C17.FwdFaithful` -/
theorem msgAttrFwd_is_msgType : ∀ s, lookup msgAttrFwdParse s = lookup msgTypeNew s :=
  lookup_eq_of_rowsIn (by decide +kernel) (by decide +kernel)

end Obl
