import Sylvia.Extracted.Tables
import Sylvia.Util.Bytes
namespace Obl
open Sylvia Extracted

/-- context shape per kind: declared parameter names = values passed on = what the ctx tuple type lists -/
theorem ctx_tables_agree : ∀ k ∈ Kind.all,
    ((lookup ctxParams k).getD []).map Prod.fst = (lookup ctxValues k).getD [] ∧
    ((lookup ctxParams k).getD []).map Prod.snd = (lookup ctxType k).getD [] ∧
    (lookup ctxType k).getD [] =
      (match k with
       | .exec | .instantiate => [bytes! "DepsMut", bytes! "Env", bytes! "MessageInfo"]
       | .migrate | .reply | .sudo => [bytes! "DepsMut", bytes! "Env"]
       | .query => [bytes! "Deps", bytes! "Env"]) := by decide +kernel

end Obl
