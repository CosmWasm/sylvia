import Sylvia.Extracted.Tables
import Sylvia.Util.Bytes
namespace Obl
open Sylvia Extracted

/-- the documented vocabulary of `#[sv::msg(<kind>)]` -/
theorem msgTypeNew_documented : msgTypeNew =
    [(bytes! "exec", .exec), (bytes! "query", .query), (bytes! "instantiate", .instantiate),
     (bytes! "migrate", .migrate), (bytes! "reply", .reply), (bytes! "sudo", .sudo)] := by decide +kernel

end Obl
