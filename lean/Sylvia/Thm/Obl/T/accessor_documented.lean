import Sylvia.Extracted.Tables
import Sylvia.Util.Bytes
namespace Obl
open Sylvia Extracted

/-- `MsgType::as_accessor_name` / `as_accessor_wrapper_name`: the associated type (of `ContractApi`, `InterfaceMessagesApi`) that
names the message of each kind, resp. `ContractApi`'s for the contract-level message of each kind -/
theorem accessor_documented : ∀ k ∈ Kind.all,
    lookup accessorName k = some (match k with
      | .exec => bytes! "Exec" | .query => bytes! "Query" | .instantiate => bytes! "Instantiate"
      | .migrate => bytes! "Migrate" | .reply => bytes! "Reply" | .sudo => bytes! "Sudo") ∧
    lookup accessorWrapperName k = some (match k with
      | .exec => bytes! "ContractExec" | .query => bytes! "ContractQuery" | .sudo => bytes! "ContractSudo"
      | .instantiate => bytes! "Instantiate" | .migrate => bytes! "Migrate" | .reply => bytes! "Reply") := by decide +kernel

end Obl
