import Sylvia.Extracted.Tables
import Sylvia.Thm.C11
/-! Obligation: `IntoMsg::into_msg` has a converting arm for every non-custom kind of `CosmosMsg`. -/
namespace Obl
theorem convertible_complete : C11.Complete Extracted.convertible := by
  intro k hk
  cases k
  case custom => exact absurd rfl hk
  all_goals decide +kernel
end Obl
