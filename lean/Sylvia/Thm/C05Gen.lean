import Sylvia.Lemmas.Sort
import Sylvia.Thm.C02
import Sylvia.Thm.Obl.Published
/-!
# C05, generator side — the list each part publishes is sorted and is exactly the set of its wire names
-/
namespace C05
open Sylvia Sylvia.Gen

/-- the published list is strictly increasing in `konst::cmp_str`'s order (the precondition of the overlap
scan) whenever the part's names are pairwise distinct -/
theorem nameList_sorted (k : Kind) (ms : List Method)
    (hnd : (((variantsOf k ms).map publishedName).map bytesOf).Nodup) :
    Inter.Sorted Lex.lexLt ((nameList k ms).map bytesOf) :=
  sortStrings_sorted _ hnd

/-- … and holds exactly the names the part's messages serialise under (no more, no fewer) -/
theorem nameList_are_wire_names (k : Kind) (ms : List Method) (key : String) :
    key ∈ nameList k ms ↔ ∃ m ∈ ms, m.kind? = some k ∧ wireName m = key :=
  mem_nameList Obl.published_rule_is_wire_rule

/-- same length: one entry per annotated method of the kind -/
theorem nameList_length (k : Kind) (ms : List Method) : (nameList k ms).length = (variantsOf k ms).length := by
  simp [nameList, (sortStrings_perm _).length_eq]

/-- closed form of `C02.parts_faithful` against the current source -/
theorem parts_faithful_closed (k : Kind) (p : Program) : C03.ListsFaithful (parts k p) :=
  C02.parts_faithful k p Obl.published_rule_is_wire_rule

end C05
