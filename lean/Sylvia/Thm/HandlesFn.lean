import Sylvia.Extracted.HandleFns
/-!
# Remote handles and the executor builder, on the regenerated code of `sylvia/src/types.rs` (C10, C20)

`Extracted.Handles.*` is written by the function translator from the current source on every run: `Remote::{new, borrowed,
executor, update_admin, clear_admin}`, `AsRef::as_ref`, the hand-written `JsonSchema::schema_name`, and `ExecutorBuilder` in both
its type states (`new` of the empty state, `with_funds`, the getters, `new` of the ready state, `build`). The attribute lists of
`struct Remote` are carried as data. What the *generated* executor methods do with these functions —
`ExecutorBuilder::<Ready>::new(self.contract().to_owned(), self.funds().to_owned(), to_json_binary(&msg)?)` — is `ready` below
(the template itself is tied by the tables and the L2 streams of C10).
-/
namespace HandlesFn
open RustSem RustExtern Extracted.Handles

variable {Binary Coin : Type} [Inhabited Binary]

/-- what a generated executor method does with the builder it is called on and the encoded message -/
def ready (b : ExecutorBuilder Binary Coin) (msg : Binary) : Res (ExecutorBuilder Binary Coin) :=
  (ExecutorBuilder.contract_m b).bind fun c => (ExecutorBuilder.funds_m b).bind fun f => ExecutorBuilder.new_3 c f msg

def withAll : ExecutorBuilder Binary Coin → List (List Coin) → Res (ExecutorBuilder Binary Coin)
  | b, [] => .ok b
  | b, f :: r => (ExecutorBuilder.with_funds b f).bind fun b' => withAll b' r

theorem withAll_eq (b : ExecutorBuilder Binary Coin) (fs : List (List Coin)) :
    withAll b fs = .ok { b with funds := (fs.getLast?).getD b.funds } := by
  induction fs generalizing b with
  | nil => rfl
  | cons f r ih => exact (ih _).trans (by rw [List.getLast?_cons]; rfl)

/-- **C10, executor clause, on the regenerated code.** For every handle (owning or borrowing its address), every sequence of
`with_funds` calls and every encoded body: the wasm execute message is addressed to the handle's address, carries the funds set
last on the builder (none when never set) and the body unchanged; nothing panics. -/
theorem executor_msg (r : Remote Binary Coin) (fs : List (List Coin)) (msg : Binary) :
    ((Remote.executor r).bind fun b => (withAll b fs).bind fun b' => (ready b' msg).bind ExecutorBuilder.build)
      = .ok (WasmMsg.Execute (contract_addr := r.addr.get) (msg := msg) (funds := (fs.getLast?).getD [])) := by
  simp only [Remote.executor, ExecutorBuilder.new_1, bind_ok, withAll_eq]
  rfl

/-- **C10, admin helpers.** Both address the handle's contract. -/
theorem admin_helpers (r : Remote Binary Coin) (a : String) :
    Remote.update_admin r a = .ok (WasmMsg.UpdateAdmin (contract_addr := r.addr.get) (admin := a)) ∧
    Remote.clear_admin r = .ok (WasmMsg.ClearAdmin (contract_addr := r.addr.get)) := ⟨rfl, rfl⟩

/-- **C20.** An owning and a borrowing handle to one address hold the same address, and `as_ref` returns it. -/
theorem new_borrowed_same (a : String) :
    (Remote.new (Binary := Binary) (Coin := Coin) a).bind Remote.as_ref = .ok a ∧
    (Remote.borrowed (Binary := Binary) (Coin := Coin) a).bind Remote.as_ref = .ok a := ⟨rfl, rfl⟩

/-- **C20, schema name.** The hand-written `schema_name` takes no argument and mentions no type parameter: it is the constant
`Remote`; the impl defines `schema_name` and `json_schema` only (no `schema_id` that could bring the parameter back in). -/
theorem schema_name_const : Remote.schema_name = .ok "Remote" := rfl

theorem json_schema_impl_fns :
    (Remote.traitImpls.filter fun p => p.1 == bytes! "JsonSchema") = [(bytes! "JsonSchema", [bytes! "schema_name", bytes! "json_schema"])] := rfl

/-- **C20, encoding.** `struct Remote` derives `Serialize` and `Deserialize`, carries no container attribute, its only
serialised field is `addr` (no attribute), and `_phantom` is skipped: serde's derive therefore encodes it as the single-member
object `{"addr": ..}` and reads that back, whatever the type parameter (which occurs in the skipped field only). -/
theorem remote_shape :
    Remote.derives.contains (bytes! "Serialize") = true ∧ Remote.derives.contains (bytes! "Deserialize") = true ∧
    Remote.structAttrs = [] ∧ Remote.fieldAttrs = [(bytes! "addr", []), (bytes! "_phantom", [bytes! "serde(skip)"])] :=
  ⟨rfl, rfl, rfl, rfl⟩

end HandlesFn
