import Sylvia.Lemmas.Reply
/-!
# C07 — reply routing honours the declared handler and outcome

`Reply.dispatchReply` models the generated `dispatch_reply`; `Reply.replyTable` the table it is generated
from. The theorems hold for every table the fold can produce (any methods, any declaration order): routing
depends only on which outcome a method was *declared* for, never on its position in the entry.
-/
namespace C07
open Sylvia Sylvia.Reply

variable (guards : List (Bool × Bool × Bool × Nat × Nat × Bool))

/-- an id that belongs to no handler is an error -/
theorem unknown_id_errors (tbl : List Entry) (r : ReplyIn) (env : Envelope) (pok : Bool) (h : tbl[r.id]? = none) :
    dispatchReply guards tbl r env pok = .unknownId r.id := by
  simp [dispatchReply, h]

/-- sub-message succeeded, a method is declared for `success` (no data parameter): that method runs, with the
gas used, the events and the message responses in its context and the payload -/
theorem success_runs_declared (tbl : List Entry) (e : Entry) (r : ReplyIn) (env : Envelope)
    (he : tbl[r.id]? = some e) (hc : Compatible e.handlers) (fn : Name) (hm : (fn, .success) ∈ e.handlers)
    (hd : e.data = none) (ev msgr : Nat) (data : Option String) (hr : r.result = .ok ev data msgr) :
    dispatchReply guards tbl r env true = .call fn r.gasUsed ev msgr .none r.payload := by
  simp [dispatchReply, he, hr, find_serving hc .success hm rfl, hd]

/-- … with a data parameter the extracted data is handed over, or the extraction error is returned and the
handler is not called -/
theorem success_with_data (tbl : List Entry) (e : Entry) (r : ReplyIn) (env : Envelope)
    (he : tbl[r.id]? = some e) (hc : Compatible e.handlers) (fn : Name) (hm : (fn, .success) ∈ e.handlers)
    (a : Arg) (hd : e.data = some a) (ev msgr : Nat) (data : Option String) (hr : r.result = .ok ev data msgr) :
    dispatchReply guards tbl r env true =
      match extractData (dataClass guards (a.data.getD {})) data env with
      | .ok first => .call fn r.gasUsed ev msgr first r.payload
      | .error o => o := by
  simp only [dispatchReply, he, hr, find_serving hc .success hm rfl, hd]
  cases extractData (dataClass guards (a.data.getD {})) data env <;> rfl

/-- sub-message succeeded, only an `always` method: it gets the full result, no events in the context -/
theorem success_runs_always (tbl : List Entry) (e : Entry) (r : ReplyIn) (env : Envelope)
    (he : tbl[r.id]? = some e) (hc : Compatible e.handlers) (fn : Name) (hm : (fn, .always) ∈ e.handlers)
    (ev msgr : Nat) (data : Option String) (hr : r.result = .ok ev data msgr) :
    dispatchReply guards tbl r env true = .call fn r.gasUsed 0 0 (.fullResult r.result) r.payload := by
  simp [dispatchReply, he, hr, find_serving hc .success hm rfl]

/-- sub-message failed, a method is declared for `error`: it runs with the error text -/
theorem error_runs_declared (tbl : List Entry) (e : Entry) (r : ReplyIn) (env : Envelope)
    (he : tbl[r.id]? = some e) (hc : Compatible e.handlers) (fn : Name) (hm : (fn, .error) ∈ e.handlers)
    (text : String) (hr : r.result = .err text) :
    dispatchReply guards tbl r env true = .call fn r.gasUsed 0 0 (.errorText text) r.payload := by
  simp [dispatchReply, he, hr, find_serving hc .error hm rfl]

theorem error_runs_always (tbl : List Entry) (e : Entry) (r : ReplyIn) (env : Envelope)
    (he : tbl[r.id]? = some e) (hc : Compatible e.handlers) (fn : Name) (hm : (fn, .always) ∈ e.handlers)
    (text : String) (hr : r.result = .err text) :
    dispatchReply guards tbl r env true = .call fn r.gasUsed 0 0 (.fullResult r.result) r.payload := by
  simp [dispatchReply, he, hr, find_serving hc .error hm rfl]

/-- no method covers success: as if no reply had been requested — events and data passed through -/
theorem success_uncovered_passes_through (tbl : List Entry) (e : Entry) (r : ReplyIn) (env : Envelope) (pok : Bool)
    (he : tbl[r.id]? = some e) (h1 : ∀ fn, (fn, ReplyOn.success) ∉ e.handlers) (h2 : ∀ fn, (fn, ReplyOn.always) ∉ e.handlers)
    (ev msgr : Nat) (data : Option String) (hr : r.result = .ok ev data msgr) :
    dispatchReply guards tbl r env pok = .passOk ev data := by
  simp [dispatchReply, he, hr, find_none_of_absent .success h1 h2]

/-- no method covers failure: the error is returned -/
theorem error_uncovered_passes_through (tbl : List Entry) (e : Entry) (r : ReplyIn) (env : Envelope) (pok : Bool)
    (he : tbl[r.id]? = some e) (h1 : ∀ fn, (fn, ReplyOn.error) ∉ e.handlers) (h2 : ∀ fn, (fn, ReplyOn.always) ∉ e.handlers)
    (text : String) (hr : r.result = .err text) :
    dispatchReply guards tbl r env pok = .passErr text := by
  simp [dispatchReply, he, hr, find_none_of_absent .error h1 h2]

/-- the hypotheses `Compatible` above hold for every entry of every table the macro builds -/
theorem table_entries_compatible (b : Bool) (tyEq : Ty → Ty → Bool) (ms : List Method) :
    ∀ e ∈ (replyTable b tyEq ms).1, Compatible e.handlers :=
  (replyTable_ok b tyEq ms).1

/-- non-vacuity: a two-method table (error declared before success) routes a success to the success method -/
example : ∃ (tbl : List Entry) (e : Entry), tbl[0]? = some e ∧ Compatible e.handlers ∧
    (([] : Name), ReplyOn.success) ∈ e.handlers ∧ e.handlers.length = 2 := by
  refine ⟨[{ id := "H_REPLY_ID", handler := [], handlers := [([Casing.Ch.us], .error), ([], .success)], data := none, payload := [] }], _, rfl, ?_, ?_, rfl⟩
  · unfold Compatible; decide
  · decide

end C07
