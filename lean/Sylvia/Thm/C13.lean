import Sylvia.Model.Strip
/-!
# C13 — the annotated source is passed through intact

Statements about `Strip.strip`, the model of the `StripInput` fold, for every item (any number of
methods, attributes, parameters). "Intact" is spelled out clause by clause. Determinism of the real
expander is *observed* by the check (two expansions in one process, a third in another process); on the
model it is trivial (`strip` and the generator model `Gen.*` are functions) and is not claimed as a theorem about the code.
-/
namespace C13
open Sylvia Sylvia.Strip

/-- no method is dropped, added or reordered; bodies, visibility, generics, names are untouched -/
theorem methods_intact (i : ItemS) : (strip i).methods.map (·.rest) = i.methods.map (·.rest) := by
  simp [strip, stripMethod, Function.comp_def]

theorem item_rest_intact (i : ItemS) : (strip i).rest = i.rest := rfl

/-- item level: exactly the foreign attributes survive, in order -/
theorem item_attrs (i : ItemS) : (strip i).attrs = i.attrs.filter (fun a => !isFramework a) := rfl

/-- method level: exactly the foreign attributes survive, in order -/
theorem method_attrs (i : ItemS) :
    (strip i).methods.map (·.attrs) = i.methods.map (fun m => m.attrs.filter (fun a => !isFramework a)) := by
  simp [strip, stripMethod, Function.comp_def]

theorem not_framework_of_mem_filter {l : List AttrS} {a : AttrS} (h : a ∈ l.filter fun a => !isFramework a) :
    isFramework a = false := by
  simpa using (List.mem_filter.mp h).2

/-- no framework attribute is left on the item or on any method -/
theorem no_framework_left (i : ItemS) :
    (∀ a ∈ (strip i).attrs, isFramework a = false) ∧
    (∀ m ∈ (strip i).methods, ∀ a ∈ m.attrs, isFramework a = false) := by
  refine ⟨fun a => not_framework_of_mem_filter, ?_⟩
  simp only [strip, List.forall_mem_map]
  exact fun m _ a => not_framework_of_mem_filter

/-- parameters of a method that is *not* a handler are left exactly as written (attributes included) -/
theorem helper_params_intact (m : MethodS) (h : isHandler m = false) : (stripMethod m).params = m.params := by
  simp [stripMethod, h]

/-- parameters of a handler keep their pattern and type, lose every attribute; none is dropped -/
theorem handler_params (m : MethodS) (h : isHandler m = true) :
    (stripMethod m).params.map (·.text) = m.params.map (·.text) ∧
    ∀ p ∈ (stripMethod m).params, p.attrs = [] := by
  rw [stripMethod, if_pos h]
  exact ⟨by rw [List.map_map]; rfl, List.forall_mem_map.mpr fun _ _ => rfl⟩

/-- `hsv` (`sv::msg` is itself in the framework table) is the regenerated obligation `Obl.msg_is_framework` -/
theorem stripped_not_handler (m : MethodS) (hsv : ∀ a, isMsgAttr a = true → isFramework a = true) :
    isHandler (stripMethod m) = false :=
  List.any_eq_false.mpr fun a ha hm => by simp [stripMethod, hsv a hm] at ha

theorem stripMethod_idem (m : MethodS) (hsv : ∀ a, isMsgAttr a = true → isFramework a = true) :
    stripMethod (stripMethod m) = stripMethod m := by
  rw [stripMethod, stripped_not_handler m hsv]
  simp [stripMethod, List.filter_filter]

theorem strip_idempotent (i : ItemS) (hsv : ∀ a, isMsgAttr a = true → isFramework a = true) :
    strip (strip i) = strip i := by
  simp only [strip, List.filter_filter, Bool.and_self, List.map_map]
  congr 1
  exact List.map_congr_left fun m _ => stripMethod_idem m hsv

/-- non-vacuity: a helper method with a `cfg` on a parameter keeps it; a handler loses `serde(default)` -/
example :
    let helper : MethodS := { attrs := [⟨["inline"], "inline"⟩], params := [⟨[⟨["cfg"], "cfg(any())"⟩], "gone:u32"⟩], rest := "fn helper" }
    let handler : MethodS := { attrs := [⟨["sv", "msg"], "sv::msg(exec)"⟩], params := [⟨[⟨["serde"], "serde(default)"⟩], "a:u32"⟩], rest := "fn h" }
    (stripMethod helper).params = helper.params ∧ (stripMethod handler).params = [⟨[], "a:u32"⟩] := by
  decide

end C13
