import Sylvia.Model.Facts
/-!
# C17 — forwarded attributes land on exactly the designated item
-/
namespace C17
open Sylvia Sylvia.Gen Sylvia.Facts Sylvia.Serde

/-- the forwarding attribute reads its kind word with the documented vocabulary (obligation `Obl.msgAttrFwd_is_msgType`) -/
def FwdFaithful : Prop := ∀ s, lookup Extracted.msgAttrFwdParse s = lookup Extracted.msgTypeNew s

theorem mem_forwardedTo {k : Kind} {msgAttrs : List (Str × String)} {a : String} :
    a ∈ forwardedTo k msgAttrs ↔ ∃ w, (w, a) ∈ msgAttrs ∧ lookup Extracted.msgAttrFwdParse w = some k := by
  simp only [forwardedTo, List.mem_filterMap, Prod.exists, Option.ite_none_right_eq_some, beq_iff_eq,
    Option.some.injEq, exists_eq_right_right]

theorem mem_typeAttrs (hf : FwdFaithful) {k : Kind} {msgAttrs : List (Str × String)} {a s : String} :
    a ∈ forwardedTo k msgAttrs ++ [s] ↔ (a = s ∨ ∃ w, (w, a) ∈ msgAttrs ∧ lookup Extracted.msgTypeNew w = some k) := by
  simp only [List.mem_append, List.mem_singleton, mem_forwardedTo, hf _, or_comm]

/-- **type level.** An attribute forwarded with `sv::msg_attr(<kind word>, a)` is attached to the generated type
of the kind that word names and to no other; nothing else is attached besides the fixed derive block and
`rename_all`. -/
theorem msg_attr_placement (hf : FwdFaithful) (k : Kind) (c : Contract) (a : String) :
    a ∈ (contractEnum k c).attrs ↔
      (a = "serde(rename_all=\"snake_case\")" ∨ ∃ w, (w, a) ∈ c.msgAttrs ∧ lookup Extracted.msgTypeNew w = some k) :=
  mem_typeAttrs hf

/-- same for the struct messages (instantiate / migrate) -/
theorem struct_attr_placement (hf : FwdFaithful) (k : Kind) (c : Contract) (f : MsgFact) (h : contractStruct k c = some f) (a : String) :
    a ∈ f.attrs ↔ (a = "serde(rename_all=\"snake_case\")" ∨ ∃ w, (w, a) ∈ c.msgAttrs ∧ lookup Extracted.msgTypeNew w = some k) := by
  unfold contractStruct at h
  split at h
  · cases h
    exact mem_typeAttrs hf
  · cases h

/-- **variant level.** The attributes forwarded from a handler (`sv::attr`) are on that handler's variant,
after the `returns` attribute of queries, and on no other variant. -/
theorem variant_attr_placement (k : Kind) (m : Method) : (variantFact k m).attrs = returnsAttr k m ++ m.fwd := rfl

theorem variants_in_order (k : Kind) (c : Contract) :
    ((contractEnum k c).variants.take (variantsOf k c.methods).length).map (·.attrs) =
      (variantsOf k c.methods).map fun m => returnsAttr k m ++ m.fwd := by
  simp [contractEnum, variantFact, Function.comp_def]

/-- **field level.** An attribute written on a handler argument is on the corresponding message field. -/
theorem field_attr_placement (a : Arg) (x : String) (hx : x ∈ a.attrs) : x ∈ (fieldFact a).attrs := by
  simp [fieldFact, hx]

theorem field_attrs_exact (a : Arg) (h1 : a.data = none) (h2 : a.payloadRaw = false) : (fieldFact a).attrs = a.attrs := by
  simp [fieldFact, svAttrTexts, h1, h2]

/-- **effect.** A field is optional on the wire iff it is an `Option` or carries a forwarded `serde(default)` -/
theorem default_takes_effect (b : Bool) (ms : List (String × Json)) (f : FieldSpec) (hmiss : Json.get? ms f.name = none) :
    (decodeField b ms f).isSome ↔ (isOption f.ty = true ∨ f.dflt = true) := by
  rw [decodeField, hmiss]
  cases isOption f.ty <;> cases f.dflt <;> simp

theorem default_is_forwarded (a : Arg) : (fieldSpec a).dflt = a.attrs.contains "serde(default)" := rfl

end C17
