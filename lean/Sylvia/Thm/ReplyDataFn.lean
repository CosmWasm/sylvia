import Sylvia.Extracted.ReplyDataFns
import Sylvia.Thm.ReplyOnFn
/-!
# `ReplyData::emit_cw_reply_on`, on the regenerated code

`Extracted.ReplyDataFns.ReplyData.emit_cw_reply_on` is written by the function translator from
`sylvia-derive/src/contract/communication/reply.rs` on every run (`quote!{..}` results are kept as their token text). It is the
function the trigger theorem of C08 (`C08.trigger_spec`) and the order-independence theorem of C14 (`C14.trigger_perm`) call
`Reply.cwReplyOn`: for **every** list of (method, outcome) pairs merged under a handler name — any length, any order — the tokens
it emits name the trigger the model computes.
-/
namespace ReplyDataFn
open RustSem Extracted.ReplyDataFns Sylvia

/-- the token text the builder template splices in for a trigger -/
def tokens : Sylvia.ReplyOn → String
  | .always => "#sylvia::cw_std::ReplyOn::Always"
  | .success => "#sylvia::cw_std::ReplyOn::Success"
  | .error => "#sylvia::cw_std::ReplyOn::Error"

/-- the model's table entry of a `ReplyData` value (names and parameters are irrelevant to the trigger) -/
def absEntry {Ident MsgField : Type} (name : Ident → Name) (d : ReplyData Ident MsgField) : Reply.Entry :=
  { id := "", handler := name d.handler_id, handlers := d.handlers.map fun h => (name h.1, ReplyOnFn.conv h.2), data := none, payload := [] }

theorem any_conv {Ident : Type} (name : Ident → Name) (hs : List (Ident × Extracted.ReplyOnFns.ReplyOn)) (o : Extracted.ReplyOnFns.ReplyOn) :
    hs.any (fun (_, r) => r == o) = (hs.map fun h => (name h.1, ReplyOnFn.conv h.2)).any (·.2 == ReplyOnFn.conv o) := by
  rw [List.any_map]
  congr 1
  funext ⟨_, r⟩
  cases r <;> cases o <;> rfl

/-- **the regenerated function is the model's `cwReplyOn`**, for every handler list -/
theorem emit_cw_reply_on_eq {Ident MsgField : Type} (name : Ident → Name) (d : ReplyData Ident MsgField) :
    ReplyData.emit_cw_reply_on d = .ok (tokens (Reply.cwReplyOn (absEntry name d))) := by
  -- the closing `rfl` evaluates `conv` and `tokens` at the constructors
  simp only [ReplyData.emit_cw_reply_on, any_conv name, Reply.cwReplyOn, apply_ite tokens, apply_ite Res.ok]
  rfl

/-- the three token texts are distinct, so the emitted tokens determine the trigger -/
theorem tokens_injective (a b : Sylvia.ReplyOn) (h : tokens a = tokens b) : a = b := by
  cases a <;> cases b <;> first | rfl | (simp [tokens] at h)

/-- non-vacuity: an error method declared before a success method requests a reply for both outcomes -/
example : ReplyData.emit_cw_reply_on ({ reply_id := 0, handler_id := 0, handlers := [(1, .Error), (2, .Success)], data := none, payload := [] } : ReplyData Nat Nat)
    = .ok "#sylvia::cw_std::ReplyOn::Always" := rfl

end ReplyDataFn
