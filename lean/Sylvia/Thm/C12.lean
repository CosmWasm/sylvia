import Sylvia.Model.Multitest
import Sylvia.Model.WF
import Sylvia.Thm.C02
import Sylvia.Thm.C05Gen
/-!
# C12 — multitest proxies are equivalent to sending the raw JSON message

The equivalence is proved for the programs `ProgWF` admits; the executable check `progWFb` (`Model/WF.lean`) is
proved sound for that hypothesis.
-/
namespace C12
open Sylvia Sylvia.Mt Sylvia.Gen Sylvia.Dispatch Sylvia.Serde

/-- well-formed programs: what the macros and the compiler enforce (C05: disjoint routing lists; distinct wire
names per message type; distinct parameter names; argument types of the modelled universe) -/
structure ProgWF (p : Program) : Prop where
  disjoint : ∀ k, C03.ListsDisjoint (parts k p)
  wires : ∀ k ms, ms ∈ partMethods k p → ((ms.map variantSpec).map (·.wire)).Nodup
  args : ∀ k ms m, ms ∈ partMethods k p → m ∈ ms → (m.args.map (·.name)).Nodup ∧ ∀ a ∈ m.args, WFTy (fieldSpec a).ty

theorem decodeAll_spec (fs : List FieldSpec) (vs cs : List Json) (h : decodeAll fs vs = some cs) :
    fs.length = cs.length ∧ ∀ q ∈ fs.zip cs, decodeVal false q.1.ty q.2 = some q.2 := by
  fun_induction decodeAll fs vs generalizing cs with
  | case1 => cases h; simp
  | case2 f fs v vs c cs' hr hd ih =>
    cases h
    obtain ⟨hl, hq⟩ := ih cs' hr
    exact ⟨congrArg (· + 1) hl, List.forall_mem_cons.mpr ⟨decodeVal_idem false false f.ty v c hd, hq⟩⟩
  | case3 | case4 => cases h

theorem typedArgs_spec {m : Method} {vals cs : List Json} (h : typedArgs m vals = some cs) :
    m.args.length = cs.length ∧ ∀ q ∈ (m.args.map fieldSpec).zip cs, decodeVal false q.1.ty q.2 = some q.2 := by
  simpa only [List.length_map] using decodeAll_spec _ _ _ h

theorem findMethod_spec {p : Program} {k : Kind} {part : Nat} {name : String} {ms : List Method} {vi : Nat} {m : Method}
    (h : findMethod p k part name = some (ms, vi, m)) : (partMethods k p)[part]? = some ms ∧ ms[vi]? = some m := by
  unfold findMethod at h
  split at h
  next ms' hp =>
    split at h
    next vi' _ =>
      obtain ⟨m', hm, ⟨⟩⟩ := Option.map_eq_some_iff.mp h
      exact ⟨hp, hm⟩
    next => cases h
  next => cases h

theorem route_ref {p : Program} (wf : ProgWF p) {k : Kind} (hk : k = .exec ∨ k = .query ∨ k = .sudo)
    {part : Nat} {name : String} {ms : List Method} {vi : Nat} {m : Method}
    (hf : findMethod p k part name = some (ms, vi, m)) {vals vs : List Json} (ht : typedArgs m vals = some vs) (c : CtxIn) :
    route p k (encodeEnum (ms.map variantSpec) vi (pairUp (m.args.map fieldSpec) vs)) c =
      .ran { handler := partId p k part ++ "." ++ Casing.toString m.name, kind := k,
             args := pairUp (m.args.map fieldSpec) vs, ctx := c } m part := by
  obtain ⟨hms, hm⟩ := findMethod_spec hf
  obtain ⟨hl, hc⟩ := typedArgs_spec ht
  have hmem := List.mem_of_getElem? hms
  obtain ⟨hargs, hwf⟩ := wf.args k ms m hmem (List.mem_of_getElem? hm)
  exact C02.dispatch_exact p k hk (C05.parts_faithful_closed k p) (wf.disjoint k) part ms hms vi m hm
    (wf.wires k ms hmem) hargs hwf vs hl hc c

theorem route_struct {p : Program} (wf : ProgWF p) {k : Kind} (hk : k = .instantiate ∨ k = .migrate)
    {m : Method} (hs : structMethod p k = some m) {vals vs : List Json} (ht : typedArgs m vals = some vs) (c : CtxIn) :
    route p k (.obj (pairUp (m.args.map fieldSpec) vs)) c =
      .ran { handler := "ct." ++ Casing.toString m.name, kind := k,
             args := pairUp (m.args.map fieldSpec) vs, ctx := c } m p.contract.ifaces.length := by
  obtain ⟨rest, hv⟩ := List.head?_eq_some_iff.mp hs
  obtain ⟨hl, hc⟩ := typedArgs_spec ht
  have hmem : variantsOf k p.contract.methods ∈ partMethods k p := by simp [partMethods]
  exact C02.dispatch_exact_struct p k hk m rest hv (wf.args k _ m hmem (hv ▸ List.mem_cons_self)).1 vs hl hc c

theorem lower_eq_some {p : Program} {op : ProxyOp} {raw : RawOp} (h : lower p op = some raw) :
    raw.shape = op.shape ∧ lowerBody p op = some raw.body := by
  obtain ⟨b, hb, rfl⟩ := Option.map_eq_some_iff.mp h
  exact ⟨rfl, hb⟩

/-- **the message a proxy submits is decoded and routed to the handler the proxy method is named after**, with
the same values: the contract side of the raw operation coincides with the specification of the proxy call -/
theorem lower_outcome (p : Program) (wf : ProgWF p) (op : ProxyOp) (raw : RawOp) (h : lower p op = some raw) :
    rawOutcome p raw = specOutcome p op := by
  obtain ⟨hs, hb⟩ := lower_eq_some h
  unfold rawOutcome
  rw [hs]
  -- `lowerBody` and `specOutcome` look up the same handler and type the same arguments
  cases op with
  | store | setfail => rfl
  | exec _ _ _ r | query _ r | sudo _ r =>
    simp only [lowerBody, ProxyOp.shape, Shape.kind, Option.getD_some] at hb
    split at hb
    next ms vi m hf =>
      obtain ⟨vs, ht, hb⟩ := Option.map_eq_some_iff.mp hb
      simp only [specOutcome, ProxyOp.shape, Shape.kind, Option.getD_some, hf, ht, ← hb]
      exact route_ref wf (by decide) hf ht _
    next => cases hb
  | inst _ _ _ args | mig _ _ _ args =>
    simp only [lowerBody, ProxyOp.shape, Shape.kind, Option.getD_some] at hb
    split at hb
    next m hm =>
      obtain ⟨vs, ht, hb⟩ := Option.map_eq_some_iff.mp hb
      simp only [specOutcome, ProxyOp.shape, Shape.kind, Option.getD_some, hm, ht, ← hb]
      exact route_struct wf (by decide) hm ht _
    next => cases hb

/-- **one step**: the proxy call has the same effect on the chain and the same result as the raw operation it lowers to -/
theorem step_equiv (p : Program) (wf : ProgWF p) (ch : Chain) (op : ProxyOp) (raw : RawOp) (h : lower p op = some raw) :
    proxyStep p ch op = rawStep p ch raw := by
  unfold proxyStep rawStep
  rw [lower_outcome p wf op raw h, (lower_eq_some h).1]

/-- lowering of a whole history (defined when every step names an existing handler with well-typed arguments) -/
def lowerAll (p : Program) : List ProxyOp → Option (List RawOp)
  | [] => some []
  | op :: rest =>
    match lower p op, lowerAll p rest with
    | some r, some rs => some (r :: rs)
    | _, _ => none

/-- **histories**: for every well-formed program, every starting chain and every history of proxy calls, the
chain ends in the same state as after the lowered raw-JSON history and every step returned the same result -/
theorem history_equiv (p : Program) (wf : ProgWF p) : ∀ (ops : List ProxyOp) (raws : List RawOp) (ch : Chain),
    lowerAll p ops = some raws → runProxy p ch ops = runRaw p ch raws := by
  intro ops
  fun_induction lowerAll p ops with
  | case1 => rintro _ ch ⟨⟩; rfl
  | case2 op ops r rs hr hl ih =>
    rintro _ ch ⟨⟩
    simp only [runProxy, runRaw, step_equiv p wf ch op r hl, ih rs _ hr]
  | case3 => nofun

def _root_.Sylvia.Mt.Res.isOk : Res → Bool
  | .code _ | .done | .addr _ | .resp _ | .answer _ => true
  | _ => false

theorem stepWith_atomic (p : Program) (ch : Chain) (s : Shape) (o : Outcome) : (stepWith p ch s o).2.isOk = false →
    (stepWith p ch s o).1 = ch ∨
      s.kind = some .instantiate ∧ (stepWith p ch s o).1 = { ch with slots := ch.slots ++ [none] } := by
  -- each of the 30 leaves of `stepWith` pairs an error with `ch`, or under `.inst` with `failed`, or is a success
  fun_cases stepWith p ch s o <;> first | exact fun _ => .inl rfl | exact fun _ => .inr ⟨rfl, rfl⟩ | exact nofun

/-- a failing step leaves the chain as it was (what makes "same effect" checkable step by step), except that a
failed instantiation still consumes a slot of the history -/
theorem failed_step_keeps_state (p : Program) (ch : Chain) (s : Shape) (o : Outcome) (t : String)
    (h : (stepWith p ch s o).2 = .handlerErr t) :
    (stepWith p ch s o).1 = ch ∨ (stepWith p ch s o).1 = { ch with slots := ch.slots ++ [none] } :=
  (stepWith_atomic p ch s o (congrArg Res.isOk h)).imp_right And.right

/-- **an error returned by a handler surfaces as that value** of the contract's error type, through every proxy;
a `StdError` goes through `From`, any other refusal of the chain becomes a generic `StdError` — never a panic -/
theorem handler_error_surfaces (t : String) :
    (Res.handlerErr t).errDyn = some .own ∧ downcastError .own = .asIs ∧ downcastError .std = .viaFromStd ∧ downcastError .other = .genericStd :=
  ⟨rfl, rfl, rfl, rfl⟩

/-- defaults: no funds, label `Contract`, no admin, plain (unsalted) instantiation -/
theorem inst_defaults : optsOf [] = { funds := 0, label := "Contract", admin := none, salt := none } := rfl

theorem inst_last_writer_wins (o : InstOpts) :
    (∀ s t, (o.set (.label s)).set (.label t) = o.set (.label t)) ∧ (∀ s t, (o.set (.admin s)).set (.admin t) = o.set (.admin t)) ∧
    (∀ s t, (o.set (.funds s)).set (.funds t) = o.set (.funds t)) ∧ (∀ s t, (o.set (.salt s)).set (.salt t) = o.set (.salt t)) :=
  ⟨fun _ _ => rfl, fun _ _ => rfl, fun _ _ => rfl, fun _ _ => rfl⟩

def _root_.Sylvia.Mt.MtSetter.field : MtSetter → Nat
  | .label _ => 0 | .admin _ => 1 | .funds _ => 2 | .salt _ => 3

theorem inst_setters_commute (o : InstOpts) (a b : MtSetter) (h : a.field ≠ b.field) : (o.set a).set b = (o.set b).set a := by
  cases a <;> cases b <;> first | rfl | exact absurd rfl h

/-- the options reach the chain operation as they stand; a salt selects the predictable-address form -/
theorem inst_shape (code : Nat) (sender : String) (ss : List MtSetter) (args : List Json) :
    (ProxyOp.inst code sender ss args).shape =
      .inst code sender (optsOf ss).funds (optsOf ss).label (optsOf ss).admin (optsOf ss).salt := rfl

/-- exec without `with_funds` sends no funds -/
theorem exec_shape (slot : Nat) (sender : String) (m : MsgRef) :
    (ProxyOp.exec slot sender none m).shape = .exec slot sender (.amount 0) ∧ ∀ n, (ProxyOp.exec slot sender (some n) m).shape = .exec slot sender n :=
  ⟨rfl, fun _ => rfl⟩

theorem wfTyB_sound (t : VTy) (h : wfTyB t = true) : WFTy t := by
  induction t with
  | u b | i b => simpa only [wfTyB, WFTy, Bool.or_eq_true, beq_iff_eq, or_assoc] using h
  | option t ih | vec t ih => exact ih h
  | pair a b iha ihb => exact ⟨iha (Bool.and_eq_true_iff.mp h).1, ihb (Bool.and_eq_true_iff.mp h).2⟩
  | _ => trivial

theorem disjointB_sound (ps : List PartSpec) (h : disjointB ps = true) : C03.ListsDisjoint ps := by
  intro i j pi pj hij hi hj k hk hk'
  obtain ⟨hi', _⟩ := List.getElem?_eq_some_iff.mp hi
  obtain ⟨hj', _⟩ := List.getElem?_eq_some_iff.mp hj
  have := List.all_eq_true.mp (List.all_eq_true.mp h i (List.mem_range.mpr hi')) j (List.mem_range.mpr hj')
  simp [hij, hi, hj] at this
  exact this k hk hk'

/-- **soundness of the executable check** for the hypothesis of the C12 (and C02/C10) theorems -/
theorem progWFb_sound (p : Program) (h : progWFb p = true) : ProgWF p := by
  simp only [progWFb, kindWFb, methodWFb, List.all_eq_true, Bool.and_eq_true, decide_eq_true_eq] at h
  exact ⟨fun k => disjointB_sound _ (h k (Kind.mem_all k)).1, fun k ms hms => ((h k (Kind.mem_all k)).2 ms hms).1,
    fun k ms m hms hm =>
      have hm := ((h k (Kind.mem_all k)).2 ms hms).2 m hm
      ⟨hm.1, fun a ha => wfTyB_sound _ (hm.2 a ha)⟩⟩

/-- a contract with an instantiate handler and an exec handler `a` taking no arguments -/
def demo : Program :=
  { contract := { name := "C", methods := [
      ({ name := [], msg := some ({ kind := Kind.instantiate } : MsgAttr) } : Method),
      ({ name := [Casing.Ch.lower 0], msg := some ({ kind := Kind.exec } : MsgAttr) } : Method)] },
    ifaces := [] }

/-- the demo program passes the executable check (so the check is not vacuously false) -/
example : progWFb demo = true := by decide

theorem demo_wf : ProgWF demo := progWFb_sound demo (by decide)

/-- a history on `demo` that lowers, runs, and changes the chain: store, instantiate with options, exec with funds -/
example : ∃ raws, lowerAll demo [.store, .inst 0 "alice" [.label "x", .funds 5] [], .exec 0 "alice" (some (.amount 7)) { part := 0, method := "a", args := [] }] = some raws ∧
    raws.length = 3 := by
  refine ⟨_, rfl, rfl⟩

end C12
