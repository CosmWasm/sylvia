import Sylvia.Model.Inter
/-! The merge loop of `Model/Inter.lean`. Disjointness of the underlying arrays is `Disjoint (cs.map Cur.full)`:
no step changes `cs.map Cur.full` (`step_full`) and at the start it is the input (`init_full`). The theorems about
`loop` (a panic exhibits a shared element; on sorted input a normal return excludes one; `remaining` bounds the
number of steps; more fuel changes nothing) are inductions along its definition. -/
set_option linter.unusedSectionVars false
namespace Inter
variable {α : Type} [DecidableEq α] {lt : α → α → Bool}

namespace Cur

theorem head_eq_some {c : Cur α} {h : α} : c.head = some h ↔ ∃ t, c.rest = h :: t :=
  List.head?_eq_some_iff

theorem look_of_head {c : Cur α} {h : α} (hh : c.head = some h) : c.look = some h := by
  obtain ⟨t, ht⟩ := head_eq_some.mp hh
  simp [look, ht]

theorem look_mem_full {c : Cur α} {h : α} (hh : c.look = some h) : h ∈ c.full := by
  rw [Cur.full, List.mem_append, List.mem_reverse]
  unfold Cur.look at hh
  split at hh
  · right; simp_all
  · left; exact List.mem_of_mem_head? hh

theorem advance_full (c : Cur α) : c.advance.full = c.full := by
  unfold Cur.advance Cur.full
  split <;> simp [*]

end Cur

def hd (cs : List (Cur α)) (i : Nat) : Option α := (cs[i]?).bind Cur.head
def lk (cs : List (Cur α)) (i : Nat) : Option α := (cs[i]?).bind Cur.look

theorem hd_eq_some {cs : List (Cur α)} {i : Nat} {h : α} :
    hd cs i = some h ↔ ∃ c, cs[i]? = some c ∧ c.head = some h := Option.bind_eq_some_iff

theorem lk_eq_some {cs : List (Cur α)} {i : Nat} {h : α} :
    lk cs i = some h ↔ ∃ c, cs[i]? = some c ∧ c.look = some h := Option.bind_eq_some_iff

theorem hd_lt_length {cs : List (Cur α)} {i : Nat} {h : α} (hh : hd cs i = some h) : i < cs.length := by
  obtain ⟨c, hc, _⟩ := hd_eq_some.mp hh
  exact (List.getElem?_eq_some_iff.mp hc).1

theorem step_getElem? (cs : List (Cur α)) (m i : Nat) :
    (step cs m)[i]? = (cs[i]?).map fun c => if m = i then c.advance else c :=
  List.getElem?_modify ..

theorem step_full (cs : List (Cur α)) (m : Nat) : (step cs m).map Cur.full = cs.map Cur.full := by
  apply List.ext_getElem?
  intro i
  rw [List.getElem?_map, step_getElem?, Option.map_map, List.getElem?_map]
  congr 1; funext c
  simp only [Function.comp]; split <;> simp [Cur.advance_full]

theorem init_full (msgs : List (List α)) : (init msgs).map Cur.full = msgs := by
  simp [init, Cur.full, Function.comp_def]

theorem disjoint_map {β : Type} (f : β → List α) (l : List β) : Disjoint (l.map f) ↔
    ∀ (i j : Nat) a b, i ≠ j → l[i]? = some a → l[j]? = some b → ∀ x ∈ f a, x ∉ f b := by
  have key : ∀ i (x : α), x ∈ (l.map f).getD i [] ↔ ∃ a, l[i]? = some a ∧ x ∈ f a := by
    intro i x
    rw [List.getD_eq_getElem?_getD, List.getElem?_map]
    cases l[i]? <;> simp
  simp only [Disjoint, key]
  constructor
  · intro h i j a b hij ha hb x hx hx'
    exact h i j hij x ⟨a, ha, hx⟩ ⟨b, hb, hx'⟩
  · rintro h i j hij x ⟨a, ha, hx⟩ ⟨b, hb, hx'⟩
    exact h i j a b hij ha hb x hx hx'

theorem collides_iff {cs : List (Cur α)} {m : Nat} :
    collides cs m = true ↔ ∃ h l, hd cs m = some h ∧ l ≠ m ∧ lk cs l = some h := by
  unfold collides hd
  cases cs[m]?.bind Cur.head with
  | none => simp
  | some h =>
    simp only [List.any_eq_true, List.mem_range, Bool.and_eq_true, bne_iff_ne, beq_iff_eq]
    constructor
    · rintro ⟨l, _, hne, hl⟩; exact ⟨h, l, rfl, hne, hl⟩
    · rintro ⟨_, l, ⟨rfl⟩, hne, hl⟩
      obtain ⟨c, hc, _⟩ := lk_eq_some.mp hl
      exact ⟨l, (List.getElem?_eq_some_iff.mp hc).1, hne, hl⟩

theorem not_shouldEnd {cs : List (Cur α)} (h : shouldEnd cs = false) : ∃ l h', hd cs l = some h' := by
  simp only [shouldEnd, List.all_eq_false, List.mem_iff_getElem?] at h
  obtain ⟨c, ⟨l, hl⟩, hc⟩ := h
  cases hr : c.rest with
  | nil => simp [hr] at hc
  | cons a t => exact ⟨l, a, hd_eq_some.mpr ⟨c, hl, Cur.head_eq_some.mpr ⟨t, hr⟩⟩⟩

/-- the invariant of the scan `nextIndexGo`: if an array below `i` is ongoing then so is `out`, with a least head
among them -/
def Good (lt : α → α → Bool) (cs : List (Cur α)) (out i : Nat) : Prop :=
  ∀ l h', l < i → hd cs l = some h' → ∃ h, hd cs out = some h ∧ lt h' h = false

namespace Good

theorem keep {cs : List (Cur α)} {out i : Nat} (hg : Good lt cs out i)
    (hi : ∀ h', hd cs i = some h' → ∃ h, hd cs out = some h ∧ lt h' h = false) : Good lt cs out (i + 1) := by
  intro l h' hl hh'
  rcases Nat.lt_succ_iff_lt_or_eq.mp hl with hl | rfl
  · exact hg l h' hl hh'
  · exact hi h' hh'

theorem take (ord : StrictTotal lt) {cs : List (Cur α)} {out i : Nat} {h : α} (hg : Good lt cs out i)
    (hi : hd cs i = some h) (hlt : ∀ ho, hd cs out = some ho → lt h ho = true) : Good lt cs i (i + 1) := by
  intro l h' hl hh'
  refine ⟨h, hi, ?_⟩
  rcases Nat.lt_succ_iff_lt_or_eq.mp hl with hl | rfl
  · obtain ⟨ho, hho, hle⟩ := hg l h' hl hh'
    exact Bool.eq_false_iff.mpr fun hx => by rw [ord.trans _ _ _ hx (hlt ho hho)] at hle; cases hle
  · cases hi.symm.trans hh'; exact ord.irrefl _

end Good

theorem nextIndexGo_good (ord : StrictTotal lt) (cs : List (Cur α)) (tl : List (Cur α)) :
    ∀ out i, cs.drop i = tl → Good lt cs out i → Good lt cs (nextIndexGo lt cs out i tl) cs.length := by
  induction tl with
  | nil => exact fun out i htl hg l h' hl => hg l h' (by have := List.drop_eq_nil_iff.mp htl; omega)
  | cons c tl ih =>
    intro out i htl hg
    have hi : hd cs i = c.head := by rw [hd, ← Nat.add_zero i, ← List.getElem?_drop, htl]; rfl
    have htl' : cs.drop (i + 1) = tl := by rw [← List.tail_drop, htl]; rfl
    rw [nextIndexGo, ← hi, ← hd]
    split
    next h hh =>
      split
      next ho hho =>
        split
        next hlt => exact ih _ _ htl' (hg.take ord hh fun _ e => by cases hho.symm.trans e; exact hlt)
        next hlt => exact ih _ _ htl' (hg.keep fun _ e => by cases hh.symm.trans e; exact ⟨ho, hho, by simpa using hlt⟩)
      next hho => exact ih _ _ htl' (hg.take ord hh fun _ e => by rw [hho] at e; cases e)
    next hh => exact ih _ _ htl' (hg.keep fun _ e => by rw [hh] at e; cases e)

theorem nextIndex_min (ord : StrictTotal lt) {cs : List (Cur α)} (he : shouldEnd cs = false) :
    ∃ h, hd cs (nextIndex lt cs) = some h ∧ ∀ l h', hd cs l = some h' → lt h' h = false := by
  have hg := nextIndexGo_good ord cs cs 0 0 rfl (fun _ _ hl => absurd hl (Nat.not_lt_zero _))
  obtain ⟨l, h', hl⟩ := not_shouldEnd he
  obtain ⟨h, hm, _⟩ := hg l h' (hd_lt_length hl) hl
  refine ⟨h, hm, fun l h' hl => ?_⟩
  obtain ⟨h2, hm2, hle⟩ := hg l h' (hd_lt_length hl) hl
  cases hm.symm.trans hm2; exact hle

/-- The selected index is always an ongoing array: the Rust `unreachable!()` arm is dead. -/
theorem nextIndex_ongoing (ord : StrictTotal lt) {cs : List (Cur α)} (he : shouldEnd cs = false) :
    ∃ h, hd cs (nextIndex lt cs) = some h :=
  (nextIndex_min ord he).imp fun _ => And.left

theorem loop_false_sound {fuel : Nat} {cs : List (Cur α)} (h : loop lt fuel cs = some false) :
    ¬ Disjoint (cs.map Cur.full) := by
  fun_induction loop lt fuel cs with
  | case1 | case2 | case3 => cases h
  | case4 n cs _ m hc =>
    obtain ⟨x, l, hm, hne, hl⟩ := collides_iff.mp hc
    obtain ⟨cm, hcm, hxm⟩ := hd_eq_some.mp hm
    obtain ⟨cl, hcl, hxl⟩ := lk_eq_some.mp hl
    exact fun hd => (disjoint_map ..).mp hd l m cl cm hne hcl hcm x (Cur.look_mem_full hxl)
      (Cur.look_mem_full (Cur.look_of_head hxm))
  | case5 n cs _ m _ ih => rw [← step_full cs m]; exact ih h

def SortedRest (lt : α → α → Bool) (cs : List (Cur α)) : Prop := ∀ c ∈ cs, Sorted lt c.rest

def Inv (cs : List (Cur α)) : Prop :=
  ∀ (k l : Nat) (ck cl : Cur α), k ≠ l → cs[k]? = some ck → cs[l]? = some cl → ∀ x ∈ ck.done, x ∉ cl.full

theorem step_sorted {cs : List (Cur α)} (m : Nat) (hs : SortedRest lt cs) : SortedRest lt (step cs m) := by
  intro c' hc'
  obtain ⟨i, hi⟩ := List.mem_iff_getElem?.mp hc'
  rw [step_getElem?, Option.map_eq_some_iff] at hi
  obtain ⟨c, hc, rfl⟩ := hi
  have hsc := hs c (List.mem_of_getElem? hc)
  split
  · unfold Cur.advance
    split
    next h t ht => rw [ht] at hsc; exact hsc.2
    next => exact hsc
  · exact hsc

/-- Consuming a least head `h` that no other array looks at keeps `Inv`: another array cannot hold `h` among
its consumed elements (`Inv`), nor at its head (no collision), nor further on (its head would be below `h`). -/
theorem step_inv {cs : List (Cur α)} (hs : SortedRest lt cs) (hinv : Inv cs) {m : Nat} {h : α}
    (hm : hd cs m = some h) (hmin : ∀ l h', hd cs l = some h' → lt h' h = false)
    (hc : collides cs m = false) : Inv (step cs m) := by
  obtain ⟨cm, hcm, hh⟩ := hd_eq_some.mp hm
  obtain ⟨t, ht⟩ := Cur.head_eq_some.mp hh
  have fresh : ∀ l cl, l ≠ m → cs[l]? = some cl → h ∉ cl.full := by
    intro l cl hlm hcl hmem
    rcases List.mem_append.mp hmem with hd' | hr
    · exact hinv l m cl cm hlm hcl hcm h (List.mem_reverse.mp hd') (Cur.look_mem_full (Cur.look_of_head hh))
    · cases hrl : cl.rest with
      | nil => simp [hrl] at hr
      | cons b u =>
        have hb : hd cs l = some b := hd_eq_some.mpr ⟨cl, hcl, Cur.head_eq_some.mpr ⟨u, hrl⟩⟩
        rw [hrl] at hr
        rcases List.mem_cons.mp hr with rfl | hu
        · exact Bool.eq_false_iff.mp hc (collides_iff.mpr ⟨h, l, hm, hlm,
            lk_eq_some.mpr ⟨cl, hcl, Cur.look_of_head (Cur.head_eq_some.mpr ⟨u, hrl⟩)⟩⟩)
        · have := (hrl ▸ hs cl (List.mem_of_getElem? hcl)).1 h hu
          rw [hmin l b hb] at this; cases this
  intro k l ck' cl' hkl hk hl x hx
  rw [step_getElem?, Option.map_eq_some_iff] at hk hl
  obtain ⟨ck, hck, rfl⟩ := hk
  obtain ⟨cl, hcl, rfl⟩ := hl
  have hfull : (if m = l then cl.advance else cl).full = cl.full := by split <;> simp [Cur.advance_full]
  rw [hfull]
  split at hx
  next hmk =>
    subst hmk
    cases hcm.symm.trans hck
    have : x = h ∨ x ∈ cm.done := by simpa [Cur.advance, ht] using hx
    rcases this with rfl | hx
    · exact fresh l cl (Ne.symm hkl) hcl
    · exact hinv m l cm cl hkl hck hcl x hx
  next => exact hinv k l ck cl hkl hck hcl x hx

theorem end_disjoint {cs : List (Cur α)} (he : shouldEnd cs = true) (hinv : Inv cs) :
    Disjoint (cs.map Cur.full) := by
  refine (disjoint_map ..).mpr fun k l ck cl hkl hk hl x hx => hinv k l ck cl hkl hk hl x ?_
  have : ck.rest = [] := by simpa using List.all_eq_true.mp he ck (List.mem_of_getElem? hk)
  simpa [Cur.full, this] using hx

theorem loop_true_complete (ord : StrictTotal lt) {fuel : Nat} {cs : List (Cur α)} (hs : SortedRest lt cs)
    (hinv : Inv cs) (h : loop lt fuel cs = some true) : Disjoint (cs.map Cur.full) := by
  fun_induction loop lt fuel cs with
  | case1 _ he | case3 _ _ he => exact end_disjoint he hinv
  | case2 | case4 => cases h
  | case5 n cs he m hc ih =>
    obtain ⟨x, hm, hmin⟩ := nextIndex_min ord (Bool.eq_false_iff.mpr he)
    rw [← step_full cs m]
    exact ih (step_sorted m hs) (step_inv hs hinv hm hmin (Bool.eq_false_iff.mpr hc)) h

theorem remaining_step {cs : List (Cur α)} {m : Nat} {h : α} (hm : hd cs m = some h) :
    remaining (step cs m) + 1 = remaining cs := by
  obtain ⟨c, hc, hh⟩ := hd_eq_some.mp hm
  obtain ⟨hlt, rfl⟩ := List.getElem?_eq_some_iff.mp hc
  obtain ⟨t, ht⟩ := Cur.head_eq_some.mp hh
  rw [step, List.modify_eq_take_cons_drop hlt]
  conv => rhs; rw [← List.take_append_drop m cs, List.drop_eq_getElem_cons hlt]
  simp only [remaining, List.map_append, List.map_cons, List.sum_append, List.sum_cons, Cur.advance, ht,
    List.length_cons]
  omega

theorem loop_terminates (ord : StrictTotal lt) {fuel : Nat} {cs : List (Cur α)} (h : remaining cs ≤ fuel) :
    loop lt fuel cs ≠ none := by
  fun_induction loop lt fuel cs with
  | case1 | case3 | case4 => simp
  | case2 _ he =>
    obtain ⟨l, x, hl⟩ := not_shouldEnd (Bool.eq_false_iff.mpr he)
    have := remaining_step hl
    omega
  | case5 n cs he m _ ih =>
    obtain ⟨x, (hx : hd cs m = some x)⟩ := nextIndex_ongoing ord (Bool.eq_false_iff.mpr he)
    exact ih (by have := remaining_step hx; omega)

theorem loop_mono {fuel fuel' : Nat} {cs : List (Cur α)} {b : Bool} (h : loop lt fuel cs = some b)
    (hle : fuel ≤ fuel') : loop lt fuel' cs = some b := by
  obtain ⟨k, rfl⟩ := Nat.le.dest hle
  fun_induction loop lt fuel cs with
  | case2 => cases h
  | case1 _ he => cases k <;> simpa [loop, he] using h
  | case3 _ _ he => rw [Nat.succ_add, loop, if_pos he]; exact h
  | case4 _ _ he m hc => rw [Nat.succ_add, loop, if_neg he]; exact (if_pos hc).trans h
  | case5 _ _ he m hc ih => rw [Nat.succ_add, loop, if_neg he]; exact (if_neg hc).trans (ih h (Nat.le_add_right ..))

theorem remaining_init (msgs : List (List α)) : remaining (init msgs) = (msgs.map List.length).sum := by
  simp [remaining, init, Function.comp_def]

theorem inv_init (msgs : List (List α)) : Inv (init msgs) := by
  intro k l ck cl _ hk _ x hx
  obtain ⟨m, _, rfl⟩ := Option.map_eq_some_iff.mp (List.getElem?_map .. ▸ hk)
  cases hx

theorem sortedRest_init {msgs : List (List α)} (hs : ∀ m ∈ msgs, Sorted lt m) :
    SortedRest lt (init msgs) := by
  intro c hc
  obtain ⟨m, hm, rfl⟩ := List.mem_map.mp hc
  exact hs m hm

end Inter
