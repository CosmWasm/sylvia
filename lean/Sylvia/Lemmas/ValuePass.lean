import Sylvia.Lemmas.SerdeRoundTrip
/-! The wrapper's generic-value pass (`normalize`) on *arbitrary* documents of an explicit domain: no repeated member
names, numbers the generic value can hold, and no sequence where only the value pass is lenient. On that domain the
pass followed by the derive decoder agrees with the derive decoder on the text; canonical values of well-formed
types, and hence encodings of messages, lie in it. -/
namespace Sylvia.Serde

/-- integer widths that occur in Rust -/
def WFTy : VTy → Prop
  | .u b => b = 8 ∨ b = 16 ∨ b = 32 ∨ b = 64
  | .i b => b = 8 ∨ b = 16 ∨ b = 32 ∨ b = 64
  | .option t => WFTy t
  | .vec t => WFTy t
  | .pair a b => WFTy a ∧ WFTy b
  | _ => True

mutual
/-- numbers the generic value can hold and distinct member names, at every level -/
def Plain : Json → Prop
  | .num t => valueNumOk t = true
  | .arr xs => PlainList xs
  | .obj ms => (ms.map Prod.fst).Nodup ∧ PlainMembers ms
  | _ => True
def PlainList : List Json → Prop
  | [] => True
  | x :: xs => Plain x ∧ PlainList xs
def PlainMembers : List (String × Json) → Prop
  | [] => True
  | (_, v) :: ms => Plain v ∧ PlainMembers ms
end

/-- the value is not one of the sequences only the value pass accepts for the type: a struct written as an array,
a tuple with surplus elements -/
def Strict : VTy → Json → Prop
  | .empty, .arr _ => False
  | .option _, .null => True
  | .option t, j => Strict t j
  | .vec t, .arr xs => StrictAll t xs
  | .pair a b, .arr [x, y] => Strict a x ∧ Strict b y
  | .pair _ _, .arr (_ :: _ :: _ :: _) => False
  | _, _ => True
where StrictAll : VTy → List Json → Prop
  | _, [] => True
  | t, x :: xs => Strict t x ∧ StrictAll t xs

theorem strict_option {t : VTy} {j : Json} (h : j ≠ .null) : Strict (.option t) j = Strict t j := by
  simp only [Strict]

theorem strictAll_of_forall {t : VTy} : ∀ {xs : List Json}, (∀ x ∈ xs, Strict t x) → Strict.StrictAll t xs
  | [], _ => by simp only [Strict.StrictAll]
  | x :: xs, h => by
    simp only [Strict.StrictAll]
    exact ⟨h x (by simp), strictAll_of_forall fun y hy => h y (by simp [hy])⟩

theorem canonInt_of_canonNat {s : String} {n : Nat} (h : canonNat s = some n) : canonInt s = some (n : Int) := by
  unfold canonInt
  split
  · rename_i cs heq
    unfold canonNat at h
    simp only [heq] at h
    simp [isDigits] at h
  · simp [h]

theorem normalizeList_self : ∀ {cs : List Json}, (∀ c ∈ cs, normalize c = some c) → normalizeList cs = some cs
  | [], _ => rfl
  | c :: cs, h => by simp [normalizeList, h c, normalizeList_self (cs := cs) fun x hx => h x (by simp [hx])]

theorem normalize_of_canon {t : VTy} {c : Json} (h : Canon t c) (hw : WFTy t) : normalize c = some c := by
  induction h with
  | @u bits s n hn hlt =>
    -- every width Rust has (`WFTy`) is at most 64 bits, which is what the generic value holds
    have h64 : n < 2 ^ 64 := by rcases hw with rfl | rfl | rfl | rfl <;> omega
    have : valueNumOk s = true := by
      simp only [valueNumOk, canonInt_of_canonNat hn, decide_eq_true_eq]
      omega
    simp [normalize, this]
  | @i bits s n hn hr =>
    have : valueNumOk s = true := by
      simp only [valueNumOk, hn, decide_eq_true_eq]
      rcases hw with rfl | rfl | rfl | rfl <;> simp at hr ⊢ <;> omega
    simp [normalize, this]
  | opt _ ih => exact ih hw
  | vec _ ih => simp [normalize, normalizeList_self fun c hc => ih c hc hw]
  | pair _ _ iha ihb => simp [normalize, normalizeList, iha hw.1, ihb hw.2]
  | _ => simp [normalize, normalizeMembers]

/-- the pass is the identity on canonical values -/
theorem normalize_canon (t : VTy) (j c : Json) (hw : WFTy t) (h : decodeVal false t j = some c) : normalize c = some c :=
  normalize_of_canon (canon_of_decodeVal h) hw

theorem strict_of_canon {t : VTy} {c : Json} (h : Canon t c) : Strict t c := by
  induction h with
  | @opt t c _ ih =>
    by_cases hc : c = .null
    · simp only [hc, Strict]
    · rwa [strict_option hc]
  | vec _ ih => simp only [Strict]; exact strictAll_of_forall ih
  | pair _ _ iha ihb => simp only [Strict]; exact ⟨iha, ihb⟩
  | _ => simp [Strict]

mutual
theorem normalize_total : ∀ j : Json, Plain j → ∃ j', normalize j = some j'
  | .null, _ => ⟨_, rfl⟩
  | .bool _, _ => ⟨_, rfl⟩
  | .num t, h => by simp only [Plain] at h; exact ⟨.num t, by simp [normalize, h]⟩
  | .str _, _ => ⟨_, rfl⟩
  | .arr xs, h => by
    simp only [Plain] at h
    obtain ⟨xs', hx⟩ := normalizeList_total xs h
    exact ⟨.arr xs', by simp [normalize, hx]⟩
  | .obj ms, h => by
    simp only [Plain] at h
    obtain ⟨ms', hm⟩ := normalizeMembers_total ms [] h.2
    exact ⟨.obj ms', by simp [normalize, hm]⟩
theorem normalizeList_total : ∀ xs : List Json, PlainList xs → ∃ xs', normalizeList xs = some xs'
  | [], _ => ⟨[], rfl⟩
  | x :: xs, h => by
    simp only [PlainList] at h
    obtain ⟨x', hx⟩ := normalize_total x h.1
    obtain ⟨xs', hxs⟩ := normalizeList_total xs h.2
    exact ⟨x' :: xs', by simp [normalizeList, hx, hxs]⟩
theorem normalizeMembers_total : ∀ (ms acc : List (String × Json)), PlainMembers ms → ∃ r, normalizeMembers ms acc = some r
  | [], acc, _ => ⟨acc, rfl⟩
  | (k, v) :: ms, acc, h => by
    simp only [PlainMembers] at h
    obtain ⟨v', hv⟩ := normalize_total v h.1
    obtain ⟨r, hr⟩ := normalizeMembers_total ms (insertSorted k v' acc) h.2
    exact ⟨r, by simp [normalizeMembers, hv, hr]⟩
end

theorem normalize_shape {j j' : Json} (h : normalize j = some j') :
    match j with
    | .arr xs => ∃ xs', normalizeList xs = some xs' ∧ j' = .arr xs'
    | .obj ms => ∃ ms', normalizeMembers ms [] = some ms' ∧ j' = .obj ms'
    | _ => j' = j := by
  cases j <;> simp only [normalize, Option.some.injEq, Option.map_eq_some_iff, Option.ite_none_right_eq_some] at h
  all_goals first | exact h.symm | exact h.2.symm | (obtain ⟨r, hr, rfl⟩ := h; exact ⟨r, hr, rfl⟩)

theorem normalizeList_cons {x : Json} {xs r : List Json} (h : normalizeList (x :: xs) = some r) :
    ∃ x' xs', normalize x = some x' ∧ normalizeList xs = some xs' ∧ r = x' :: xs' := by
  simp only [normalizeList, Option.bind_eq_bind, Option.bind_eq_some_iff, Option.pure_def, Option.some.injEq] at h
  obtain ⟨x', hx, xs', hxs, rfl⟩ := h
  exact ⟨x', xs', hx, hxs, rfl⟩

theorem normalizeMembers_cons {k : String} {v : Json} {ms acc r : List (String × Json)}
    (h : normalizeMembers ((k, v) :: ms) acc = some r) :
    ∃ v', normalize v = some v' ∧ normalizeMembers ms (insertSorted k v' acc) = some r := by
  simpa only [normalizeMembers, Option.bind_eq_bind, Option.bind_eq_some_iff] using h


theorem decodeVals_after_pass {t : VTy}
    (ih : ∀ j j', normalize j = some j' → Strict t j → decodeVal true t j' = decodeVal false t j) :
    ∀ (xs xs' : List Json), normalizeList xs = some xs' → Strict.StrictAll t xs → decodeVals true t xs' = decodeVals false t xs
  | [], _, h, _ => by cases h; simp only [decodeVals]
  | x :: xs, _, h, hs => by
    obtain ⟨x', xs', hx, hxs, rfl⟩ := normalizeList_cons h
    simp only [Strict.StrictAll] at hs
    simp only [decodeVals, ih x x' hx hs.1, decodeVals_after_pass ih xs xs' hxs hs.2]

theorem decodeVal_after_pass : ∀ (t : VTy) (j j' : Json), normalize j = some j' → Strict t j →
    decodeVal true t j' = decodeVal false t j := by
  intro t
  induction t with
  | option t ih =>
    intro j j' hn hs
    by_cases hj : j = .null
    · cases hj; cases hn; simp only [decodeVal]
    · have hj' : j' ≠ .null := by rintro rfl; cases j <;> simp_all [normalize]
      rw [decodeVal_option hj, decodeVal_option hj']
      exact ih j j' hn (strict_option hj ▸ hs)
  | vec t ih =>
    intro j j' hn hs
    have := normalize_shape hn
    cases j <;> simp only at this
    case arr xs =>
      obtain ⟨xs', hxs, rfl⟩ := this
      simp only [decodeVal, decodeVals_after_pass ih xs xs' hxs (by simpa only [Strict] using hs)]
    all_goals first | obtain ⟨_, _, rfl⟩ := this | subst this
    all_goals unfold decodeVal; rfl
  | pair a b iha ihb =>
    intro j j' hn hs
    have := normalize_shape hn
    cases j <;> simp only at this
    case arr xs =>
      obtain ⟨xs', hxs, rfl⟩ := this
      match xs, hxs, hs with
      | [], hxs, _ => cases hxs; unfold decodeVal; rfl
      | [x], hxs, _ =>
        obtain ⟨x', _, _, h, rfl⟩ := normalizeList_cons hxs
        cases h; unfold decodeVal; rfl
      | [x, y], hxs, hs =>
        obtain ⟨x', _, hx, h1, rfl⟩ := normalizeList_cons hxs
        obtain ⟨y', _, hy, h2, rfl⟩ := normalizeList_cons h1
        cases h2
        simp only [Strict] at hs
        simp only [decodeVal, iha x x' hx hs.1, ihb y y' hy hs.2]
      | _ :: _ :: _ :: _, _, hs => simp [Strict] at hs
    all_goals first | obtain ⟨_, _, rfl⟩ := this | subst this
    all_goals unfold decodeVal; rfl
  | _ =>
    -- types without components: a leaf comes back unchanged, an array or object stays one; after unfolding,
    -- both sides are the same clause of `decodeVal` (mode-dependent only for `empty` given an array, which is not strict)
    intro j j' hn hs
    have := normalize_shape hn
    cases j <;> simp only at this
    all_goals first | obtain ⟨_, _, rfl⟩ := this | subst this
    all_goals unfold decodeVal
    all_goals first | rfl | simp [Strict] at hs


theorem insertSorted_perm (k : String) (v : Json) : ∀ (acc : List (String × Json)), k ∉ acc.map Prod.fst →
    (insertSorted k v acc).Perm ((k, v) :: acc)
  | [], _ => by simp [insertSorted]
  | (k', v') :: r, h => by
    simp only [List.map_cons, List.mem_cons, not_or] at h
    have hne : (k == k') = false := by simpa using h.1
    simp only [insertSorted, hne, Bool.false_eq_true, if_false]
    split
    · exact List.Perm.refl _
    · exact ((insertSorted_perm k v r h.2).cons (k', v')).trans (List.Perm.swap _ _ _)

theorem normalizeMembers_perm : ∀ (ms acc r : List (String × Json)), (ms.map Prod.fst ++ acc.map Prod.fst).Nodup →
    normalizeMembers ms acc = some r → (r.map Prod.fst).Perm (ms.map Prod.fst ++ acc.map Prod.fst)
  | [], acc, r, _, h => by cases h; simp
  | (k0, v0) :: ms, acc, r, hnd, h => by
    obtain ⟨v0', _, h⟩ := normalizeMembers_cons h
    have hp : (ms.map Prod.fst ++ (insertSorted k0 v0' acc).map Prod.fst).Perm (k0 :: (ms.map Prod.fst ++ acc.map Prod.fst)) :=
      (((insertSorted_perm k0 v0' acc fun hk => (List.nodup_cons.mp hnd).1 (List.mem_append_right _ hk)).map Prod.fst).append_left _).trans
        List.perm_middle
    exact (normalizeMembers_perm ms _ r (hp.nodup_iff.mpr hnd) h).trans hp

theorem normalizeMembers_keys : ∀ (ms acc r : List (String × Json)) (k : String), normalizeMembers ms acc = some r →
    (k ∈ r.map Prod.fst ↔ k ∈ ms.map Prod.fst ∨ k ∈ acc.map Prod.fst)
  | [], acc, r, k, h => by cases h; simp
  | (k0, v0) :: ms, acc, r, k, h => by
    obtain ⟨v0', _, h⟩ := normalizeMembers_cons h
    rw [normalizeMembers_keys ms _ r k h, keys_insertSorted, List.map_cons, List.mem_cons, or_left_comm, or_assoc]

theorem normalizeMembers_each : ∀ (ms acc r : List (String × Json)), normalizeMembers ms acc = some r →
    ∀ p ∈ ms, ∃ v', normalize p.2 = some v'
  | (k, v) :: ms, acc, r, h, p, hp => by
    obtain ⟨v', hv, h⟩ := normalizeMembers_cons h
    rcases List.mem_cons.mp hp with rfl | hp
    · exact ⟨v', hv⟩
    · exact normalizeMembers_each ms _ r h p hp

theorem normalizeMembers_of_each : ∀ (ms acc : List (String × Json)), (∀ p ∈ ms, ∃ v', normalize p.2 = some v') →
    ∃ r, normalizeMembers ms acc = some r
  | [], acc, _ => ⟨acc, rfl⟩
  | (k, v) :: ms, acc, h => by
    obtain ⟨v', hv⟩ := h (k, v) (by simp)
    obtain ⟨r, hr⟩ := normalizeMembers_of_each ms (insertSorted k v' acc) fun p hp => h p (by simp [hp])
    exact ⟨r, by simp [normalizeMembers, hv, hr]⟩

theorem normalizeMembers_get : ∀ (ms acc r : List (String × Json)) (k : String), (ms.map Prod.fst).Nodup →
    normalizeMembers ms acc = some r →
    Json.get? r k = match Json.get? ms k with | some v => normalize v | none => Json.get? acc k
  | [], acc, r, k, _, h => by cases h; rfl
  | (k0, v0) :: ms, acc, r, k, hnd, h => by
    rw [List.map_cons, List.nodup_cons] at hnd
    obtain ⟨v0', hv, h⟩ := normalizeMembers_cons h
    rw [normalizeMembers_get ms _ r k hnd.2 h, get?_insertSorted, get?_cons]
    by_cases hk : k0 = k
    · subst hk; simp only [get?_not_key hnd.1, if_true, hv]
    · simp only [hk, if_false]

theorem mapM_congr_opt {α β : Type} (g g' : α → Option β) : ∀ (l : List α), (∀ a ∈ l, g a = g' a) → l.mapM g = l.mapM g'
  | [], _ => rfl
  | a :: l, h => by
    simp only [List.mapM_cons, h a (by simp), mapM_congr_opt g g' l (fun b hb => h b (by simp [hb]))]

/-- **struct bodies**: after the pass the derive decoder sees the same fields -/
theorem decodeFields_after_pass (fs : List FieldSpec) (ms ms' : List (String × Json)) (hnd : (ms.map Prod.fst).Nodup)
    (h : normalizeMembers ms [] = some ms')
    (hs : ∀ f ∈ fs, ∀ v, Json.get? ms f.name = some v → Strict f.ty v) :
    decodeFields true fs ms' = decodeFields false fs ms := by
  unfold decodeFields
  rw [hasDupField_false_of_nodup fs ms' ((normalizeMembers_perm ms [] ms' (by simpa using hnd) h).nodup_iff.mpr (by simpa using hnd)),
    hasDupField_false_of_nodup fs ms hnd]
  refine mapM_congr_opt _ _ _ fun f hf => ?_
  unfold decodeField
  rw [normalizeMembers_get ms [] ms' f.name hnd h]
  cases hg : Json.get? ms f.name with
  | none => rfl
  | some v =>
    obtain ⟨v', hv'⟩ := normalizeMembers_each ms [] ms' h (f.name, v) (get?_some_mem hg)
    simp only [hv', decodeVal_after_pass f.ty v v' hv' (hs f hf v hg)]

/-- the value pass followed by the derive decoder gives back the members of an encoded body, in declaration order -/
theorem decodeFields_sorted (fs : List FieldSpec) (cs : List Json)
    (hlen : fs.length = cs.length) (hnd : (fs.map (·.name)).Nodup)
    (hcan : ∀ p ∈ fs.zip cs, decodeVal false p.1.ty p.2 = some p.2)
    {ms' : List (String × Json)} (h : normalizeMembers (pairUp fs cs) [] = some ms') :
    decodeFields true fs ms' = some (pairUp fs cs) := by
  rw [decodeFields_after_pass fs _ ms' (keys_pairUp fs cs hlen ▸ hnd) h, decodeFields_pairUp false fs cs hlen hnd hcan]
  intro f hf v hv
  obtain ⟨p, hp, rfl⟩ : ∃ p ∈ fs.zip cs, p.1 = f := by
    rw [← List.map_fst_zip (l₁ := fs) (l₂ := cs) (by omega)] at hf
    exact List.mem_map.mp hf
  rw [get?_pairUp fs cs hlen hnd p hp] at hv
  cases hv
  exact strict_of_canon (canon_of_decodeVal (hcan p hp))

end Sylvia.Serde
