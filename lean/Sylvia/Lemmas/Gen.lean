import Sylvia.Model.Gen
/-! What the generator model's selections contain. -/
namespace Sylvia.Gen

theorem mem_variantsOf {k : Kind} {ms : List Method} {m : Method} : m ∈ variantsOf k ms ↔ m ∈ ms ∧ m.kind? = some k := by
  simp only [variantsOf, List.mem_filter, beq_iff_eq]

/-- the fields of a message carry the names of the handler's parameters -/
theorem names_fieldSpec (as : List Arg) : (as.map fieldSpec).map (·.name) = as.map (·.name) :=
  List.map_map ..

end Sylvia.Gen
