import Sylvia.Model.Serde
import Sylvia.Model.RustSem
/-! Lemmas about the decoder model: association lists and the key-sorted map of the value pass, canonical values. -/

namespace Sylvia.Serde
open RustSem (enumFindFrom)

theorem findVariant_go_eq (k : String) : ∀ (i : Nat) (vs : List VariantSpec),
    findVariant.go k i vs = enumFindFrom (·.wire == k) i vs
  | _, [] => rfl
  | i, v :: r => by rw [findVariant.go, enumFindFrom, findVariant_go_eq k (i + 1) r]

theorem findPart_go_eq (k : String) : ∀ (i : Nat) (ps : List PartSpec),
    findPart.go k i ps = enumFindFrom (·.published.contains k) i ps
  | _, [] => rfl
  | i, p :: r => by rw [findPart.go, enumFindFrom, findPart_go_eq k (i + 1) r]

theorem get?_cons (k k' : String) (v : Json) (r : List (String × Json)) :
    Json.get? ((k, v) :: r) k' = if k = k' then some v else Json.get? r k' := by
  simp only [Json.get?, List.find?_cons]
  split <;> simp_all

theorem get?_not_key {ms : List (String × Json)} {k : String} (h : k ∉ ms.map Prod.fst) : Json.get? ms k = none := by
  induction ms with
  | nil => rfl
  | cons x r ih =>
    simp only [List.map_cons, List.mem_cons, not_or] at h
    rw [get?_cons, if_neg (Ne.symm h.1), ih h.2]

theorem get?_some_mem {ms : List (String × Json)} {k : String} {v : Json} (h : Json.get? ms k = some v) : (k, v) ∈ ms := by
  induction ms with
  | nil => cases h
  | cons x r ih =>
    obtain ⟨k0, v0⟩ := x
    rw [get?_cons] at h
    split at h
    · simp_all
    · exact List.mem_cons_of_mem _ (ih h)

theorem get?_insertSorted (k : String) (v : Json) (acc : List (String × Json)) (k' : String) :
    Json.get? (insertSorted k v acc) k' = if k = k' then some v else Json.get? acc k' := by
  induction acc with
  | nil => exact get?_cons ..
  | cons x r ih =>
    obtain ⟨k0, v0⟩ := x
    simp only [insertSorted]
    split
    · rename_i h; cases beq_iff_eq.mp h; simp only [get?_cons]; split <;> rfl
    · split
      · exact get?_cons ..
      · rw [get?_cons, ih, get?_cons]; split <;> split <;> simp_all

theorem keys_insertSorted (k : String) (v : Json) (acc : List (String × Json)) (k' : String) :
    k' ∈ (insertSorted k v acc).map Prod.fst ↔ k' = k ∨ k' ∈ acc.map Prod.fst := by
  induction acc with
  | nil => simp [insertSorted]
  | cons x r ih =>
    simp only [insertSorted]
    split
    · rename_i h; cases beq_iff_eq.mp h; simp
    · split
      · simp
      · simp only [List.map_cons, List.mem_cons, ih, or_left_comm]

theorem insertSorted_ne_nil (k : String) (v : Json) (acc : List (String × Json)) : insertSorted k v acc ≠ [] :=
  fun h => by simpa [h] using (keys_insertSorted k v acc k).mpr (.inl rfl)

/-- the canonical encodings of the values of a type: exactly what `decodeVal` returns, in either mode
(`canon_of_decodeVal`, `decodeVal_of_canon`) -/
inductive Canon : VTy → Json → Prop
  | u {bits s n} : canonNat s = some n → n < 2 ^ bits → Canon (.u bits) (.num s)
  | i {bits s n} : canonInt s = some n → -(2 ^ (bits - 1) : Int) ≤ n ∧ n < (2 ^ (bits - 1) : Int) → Canon (.i bits) (.num s)
  | bool b : Canon .bool (.bool b)
  | string s : Canon .string (.str s)
  | addr s : Canon .addr (.str s)
  | uint128 {s n} : canonNat s = some n → n < 2 ^ 128 → Canon .uint128 (.str s)
  | binary {s} : isBase64 s = true → Canon .binary (.str s)
  | empty : Canon .empty (.obj [])
  | null t : Canon (.option t) .null
  | opt {t c} : Canon t c → Canon (.option t) c
  | vec {t cs} : (∀ c ∈ cs, Canon t c) → Canon (.vec t) (.arr cs)
  | pair {a b x y} : Canon a x → Canon b y → Canon (.pair a b) (.arr [x, y])

theorem canon_of_decodeVal {b : Bool} {t : VTy} {j c : Json} (h : decodeVal b t j = some c) : Canon t c := by
  refine decodeVal.induct b
    (motive1 := fun t j => ∀ c, decodeVal b t j = some c → Canon t c)
    (motive2 := fun t xs => ∀ cs, decodeVals b t xs = some cs → ∀ c ∈ cs, Canon t c)
    ?_ ?_ ?_ ?_ ?_ ?_ ?_ ?_ ?_ ?_ ?_ ?_ ?_ ?_ ?_ ?_ ?_ ?_ ?_ ?_ t j c h
  all_goals intros
  -- every clause of `decodeVal` returns what one constructor describes; the catch-all clause returns `none`
  all_goals simp only [decodeVal, decodeVals, Option.bind_eq_some_iff, Option.map_eq_some_iff, Option.ite_none_right_eq_some,
    Option.some.injEq, Option.pure_def, Option.bind_eq_bind, reduceCtorEq, *] at *
  all_goals grind [Canon]

theorem decodeVal_option {b : Bool} {t : VTy} {j : Json} (h : j ≠ .null) : decodeVal b (.option t) j = decodeVal b t j := by
  simp only [decodeVal]

theorem decodeVals_self {b : Bool} {t : VTy} : ∀ {cs : List Json}, (∀ c ∈ cs, decodeVal b t c = some c) → decodeVals b t cs = some cs
  | [], _ => by simp [decodeVals]
  | c :: cs, h => by simp [decodeVals, h c, decodeVals_self (cs := cs) fun x hx => h x (by simp [hx])]

theorem decodeVal_of_canon {t : VTy} {c : Json} (h : Canon t c) (b : Bool) : decodeVal b t c = some c := by
  induction h with
  | @opt t c _ ih =>
    by_cases hc : c = .null
    · simp [hc, decodeVal]
    · rwa [decodeVal_option hc]
  | vec _ ih => simp [decodeVal, decodeVals_self ih]
  | _ => simp [decodeVal, *]

/-- canonical values are fixed points of `decodeVal`, in either mode -/
theorem decodeVal_idem (b b' : Bool) (t : VTy) (j c : Json) (h : decodeVal b t j = some c) : decodeVal b' t c = some c :=
  decodeVal_of_canon (canon_of_decodeVal h) b'

end Sylvia.Serde
