import Sylvia.Lemmas.Serde
/-! Round trip of the derive decoder on encodings of well-formed messages. -/
namespace Sylvia.Serde

theorem pairUp_cons (f : FieldSpec) (fs : List FieldSpec) (c : Json) (cs : List Json) :
    pairUp (f :: fs) (c :: cs) = (f.name, c) :: pairUp fs cs := rfl

theorem keys_pairUp (fs : List FieldSpec) (cs : List Json) (h : fs.length = cs.length) :
    (pairUp fs cs).map Prod.fst = fs.map (·.name) :=
  calc (pairUp fs cs).map Prod.fst = ((fs.zip cs).map Prod.fst).map (·.name) := by simp [pairUp, Function.comp_def]
    _ = fs.map (·.name) := by rw [List.map_fst_zip (by omega)]

theorem get?_of_mem : ∀ {ms : List (String × Json)} {k : String} {v : Json}, (ms.map Prod.fst).Nodup → (k, v) ∈ ms →
    Json.get? ms k = some v
  | (k0, v0) :: r, k, v, hnd, hm => by
    rw [List.map_cons, List.nodup_cons] at hnd
    rw [get?_cons]
    rcases List.mem_cons.mp hm with e | hm
    · cases e; simp
    · rw [if_neg fun e => hnd.1 (List.mem_map.mpr ⟨_, hm, e.symm⟩), get?_of_mem hnd.2 hm]

theorem get?_pairUp (fs : List FieldSpec) (cs : List Json) (hlen : fs.length = cs.length) (hnd : (fs.map (·.name)).Nodup)
    (p : FieldSpec × Json) (hp : p ∈ fs.zip cs) : Json.get? (pairUp fs cs) p.1.name = some p.2 :=
  get?_of_mem (keys_pairUp fs cs hlen ▸ hnd) (List.mem_map_of_mem (f := fun p : FieldSpec × Json => (p.1.name, p.2)) hp)

theorem hasDupField_false_of_nodup (fs : List FieldSpec) :
    ∀ (ms : List (String × Json)), (ms.map Prod.fst).Nodup → hasDupField fs ms = false
  | [], _ => rfl
  | (k, v) :: ms, h => by
    rw [List.map_cons, List.nodup_cons] at h
    have : ms.any (·.1 == k) = false := by
      simpa using fun a b hab e => h.1 (List.mem_map.mpr ⟨_, hab, e⟩)
    simp [hasDupField, this, hasDupField_false_of_nodup fs ms h.2]

theorem mapM_decodeField_of_get (b : Bool) (ms : List (String × Json)) : ∀ (fs : List FieldSpec) (cs : List Json),
    fs.length = cs.length →
    (∀ p ∈ fs.zip cs, Json.get? ms p.1.name = some p.2 ∧ decodeVal b p.1.ty p.2 = some p.2) →
    fs.mapM (decodeField b ms) = some (pairUp fs cs)
  | [], [], _, _ => rfl
  | f :: fs, c :: cs, hlen, h => by
    have h0 := h (f, c) (by simp)
    simp [decodeField, h0.1, h0.2, pairUp_cons, mapM_decodeField_of_get b ms fs cs (by simpa using hlen)
      fun p hp => h p (by simp [hp])]

/-- **struct body round trip**: decoding the encoded body gives the same members back -/
theorem decodeFields_pairUp (b : Bool) (fs : List FieldSpec) (cs : List Json)
    (hlen : fs.length = cs.length) (hnd : (fs.map (·.name)).Nodup)
    (hcan : ∀ p ∈ fs.zip cs, decodeVal b p.1.ty p.2 = some p.2) :
    decodeFields b fs (pairUp fs cs) = some (pairUp fs cs) := by
  rw [decodeFields, hasDupField_false_of_nodup fs _ (keys_pairUp fs cs hlen ▸ hnd)]
  exact mapM_decodeField_of_get b _ fs cs hlen fun p hp => ⟨get?_pairUp fs cs hlen hnd p hp, hcan p hp⟩

theorem findVariant_some {vs : List VariantSpec} {k : String} {i : Nat} {v : VariantSpec}
    (h : findVariant vs k = some (i, v)) : vs[i]? = some v ∧ v.wire = k := by
  rw [findVariant, findVariant_go_eq] at h
  obtain ⟨_, rfl, hi, hp, _⟩ := RustSem.enumFindFrom_some _ h
  exact ⟨Nat.zero_add _ ▸ hi, beq_iff_eq.mp hp⟩

/-- with pairwise distinct wire names the variant is found at its own index -/
theorem findVariant_at (vs : List VariantSpec) (i : Nat) (v : VariantSpec) (hv : vs[i]? = some v)
    (hnd : (vs.map (·.wire)).Nodup) : findVariant vs v.wire = some (i, v) := by
  rw [findVariant, findVariant_go_eq, RustSem.enumFindFrom_at _ 0 hv (by simp), Nat.zero_add]
  intro j hj w hw
  obtain ⟨hi', rfl⟩ := List.getElem?_eq_some_iff.mp hv
  obtain ⟨hj', rfl⟩ := List.getElem?_eq_some_iff.mp hw
  simpa using List.pairwise_iff_getElem.mp (List.pairwise_map.mp hnd) j i hj' hi' hj

/-- **C01 round trip (enum messages)**: parsing the JSON a message serialises to gives back the same
variant with the same field values -/
theorem decodeEnum_encodeEnum (b : Bool) (vs : List VariantSpec) (i : Nat) (v : VariantSpec) (cs : List Json)
    (hv : vs[i]? = some v) (hwires : (vs.map (·.wire)).Nodup)
    (hlen : v.fields.length = cs.length) (hnd : (v.fields.map (·.name)).Nodup)
    (hcan : ∀ p ∈ v.fields.zip cs, decodeVal b p.1.ty p.2 = some p.2) :
    decodeEnum b vs (encodeEnum vs i (pairUp v.fields cs)) = some (i, pairUp v.fields cs) := by
  simp only [encodeEnum, hv, Option.map_some, Option.getD_some, decodeEnum, findVariant_at vs i v hv hwires,
    decodeFields_pairUp b v.fields cs hlen hnd hcan]

/-- a part that accepts a document owns the document's single key -/
theorem decodeEnum_key (b : Bool) (vs : List VariantSpec) (d : Json) (r : Nat × List (String × Json))
    (h : decodeEnum b vs d = some r) : ∃ k body, d = .obj [(k, body)] ∧ k ∈ vs.map (·.wire) := by
  unfold decodeEnum at h
  split at h
  · rename_i k body
    split at h
    · rename_i i v hf
      obtain ⟨hi, hw⟩ := findVariant_some hf
      exact ⟨k, body, rfl, hw ▸ List.mem_map_of_mem (List.mem_of_getElem? hi)⟩
    · cases h
  · cases h

end Sylvia.Serde
