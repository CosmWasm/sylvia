import Sylvia.Model.Casing
namespace Casing
open Ch

theorem ccSplit_us (r : List Ch) : ccSplit (us :: r) = ccSplit r := by
  simp [ccSplit, splitGo]

section run
variable {α : Type} (f : α → Ch) (P : Ch → Bool)
  (hf : ∀ a, P (f a) ∧ f a ≠ us ∧ ∀ d e, boundaryAfter (f a) (d :: e) = (!P d && d != us))
  (r : List Ch) (hr : ∀ d ∈ r.head?, P d = false)
include hf hr

/-- For `P` the lower-case letters or the digits. The empty words are dropped on both sides, so that the end of the
string, a `_` and a boundary after the run are one case: each leaves `ccSplit r`. -/
theorem splitGo_run (l : List α) : ∀ (a : α) (cur : List Ch),
    (splitGo (f a :: l.map f ++ r) cur).filter (· ≠ []) = (cur.reverse ++ f a :: l.map f) :: ccSplit r := by
  induction l with
  | nil =>
    intro a cur
    have ⟨_, ha, hb⟩ := hf a
    rw [List.map_nil, List.cons_append, List.nil_append, splitGo, if_neg ha]
    cases r with
    | nil => simp [boundaryAfter, splitGo, ccSplit]
    | cons d e =>
      rw [hb, hr d rfl]
      by_cases hu : d = us
      · subst hu
        simp [splitGo, ccSplit]
      · simp [hu, ccSplit]
  | cons b l ih =>
    intro a cur
    have ⟨_, ha, hb⟩ := hf a
    rw [List.map_cons, List.cons_append, List.cons_append, splitGo, if_neg ha, hb, (hf b).1]
    simpa using ih b (f a :: cur)

theorem ccSplit_run (l : List α) (a : α) : ccSplit (f a :: l.map f ++ r) = (f a :: l.map f) :: ccSplit r :=
  splitGo_run f P hf r hr l a []

end run

def Word.camel (w : Word) : List Ch := upper w.l0 :: w.ls.map lower ++ w.ds.map digit

theorem upperCamel_word (w : Word) (r : List Ch) (hr : ∀ d ∈ r.head?, d = us) :
    ccUpperCamel (w.chars ++ r) = w.camel ++ ccUpperCamel r := by
  have hl := ccSplit_run lower isLower fun _ => ⟨rfl, nofun, fun d _ => by cases d <;> rfl⟩
  have hd := ccSplit_run digit isDigit fun _ => ⟨rfl, nofun, fun d _ => by cases d <;> rfl⟩
  obtain ⟨l0, ls, ds⟩ := w
  simp only [ccUpperCamel, Word.chars, Word.camel, List.append_assoc]
  cases ds with
  | nil =>
    rw [List.map_nil, List.nil_append, hl r (fun d h => hr d h ▸ rfl)]
    simp [capital, toUpper, toLower, Function.comp_def]
  | cons d ds =>
    rw [List.map_cons, hl _ (by simp [isLower]), hd r (fun d h => hr d h ▸ rfl)]
    simp [capital, toUpper, toLower, Function.comp_def]

theorem upperCamel_render (w : Word) (ws : List Word) :
    ccUpperCamel (render (w :: ws)) = ((w :: ws).map Word.camel).flatten := by
  induction ws generalizing w with
  | nil => simpa [render, ccUpperCamel, ccSplit, splitGo] using upperCamel_word w [] (by simp)
  | cons v vs ih =>
    simp only [render]
    rw [upperCamel_word w _ (by simp), ccUpperCamel, ccSplit_us, ← ccUpperCamel, ih v]
    rfl

theorem serdeGo_run {α : Type} (f : α → Ch) (hf : ∀ a, isUpper (f a) = false ∧ toLower (f a) = f a) (r : List Ch) :
    ∀ l : List α, serdeGo false (l.map f ++ r) = l.map f ++ serdeGo false r
  | [] => rfl
  | a :: l => by
    rw [List.map_cons, List.cons_append, serdeGo, (hf a).1, (hf a).2, serdeGo_run f hf r l]
    rfl

theorem serdeGo_camel (w : Word) (r : List Ch) :
    serdeGo true (w.camel ++ r) = w.chars ++ serdeGo false r := by
  simp only [Word.camel, Word.chars, List.cons_append, List.append_assoc]
  rw [serdeGo, serdeGo_run lower (fun _ => ⟨rfl, rfl⟩), serdeGo_run digit (fun _ => ⟨rfl, rfl⟩)]
  rfl

/-- C01 core: for every name in the property's shape the wire name is the method name. -/
theorem wire_name_shape (w : Word) (ws : List Word) :
    serdeSnake (ccUpperCamel (render (w :: ws))) = render (w :: ws) := by
  rw [serdeSnake, upperCamel_render]
  induction ws generalizing w with
  | nil => simpa [serdeGo, render] using serdeGo_camel w []
  | cons v vs ih =>
    have hv (r : List Ch) : serdeGo false (v.camel ++ r) = us :: serdeGo true (v.camel ++ r) := rfl
    rw [List.map_cons, List.flatten_cons, serdeGo_camel, List.map_cons, List.flatten_cons, hv,
      ← List.flatten_cons, ← List.map_cons, ih v]
    rfl

end Casing
