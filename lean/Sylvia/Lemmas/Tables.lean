import Sylvia.Model.Kinds
/-! Lifting finite table checks (decidable, over the regenerated data) to statements about every key. -/
namespace Sylvia

variable {α β : Type} [DecidableEq α] [DecidableEq β]

theorem lookup_of_mem_first {t : List (α × β)} {a : α} {b : β} (h : lookup t a = some b) : (a, b) ∈ t := by
  fun_induction lookup t a with
  | case1 => cases h
  | case2 => cases h; exact List.mem_cons_self
  | case3 _ _ _ _ ih => exact List.mem_cons_of_mem _ (ih h)

theorem lookup_none_of_not_key {t : List (α × β)} {a : α} (h : lookup t a = none) : ∀ b, (a, b) ∉ t := by
  fun_induction lookup t a with
  | case1 => simp
  | case2 => cases h
  | case3 r x y hx ih =>
    intro b hb
    rcases List.mem_cons.mp hb with e | e
    · cases e; exact hx rfl
    · exact ih h b e

def rowsIn (a b : List (α × β)) : Bool := a.all fun r => lookup b r.1 == some r.2

theorem rowsIn_mem {a b : List (α × β)} (h : rowsIn a b = true) {x : α} {y : β} (hm : (x, y) ∈ a) :
    lookup b x = some y := by
  simpa using List.all_eq_true.mp h (x, y) hm

theorem lookup_eq_of_rowsIn {a b : List (α × β)} (hab : rowsIn a b = true) (hba : rowsIn b a = true) :
    ∀ s, lookup a s = lookup b s := fun _ =>
  Option.ext fun _ =>
    ⟨fun h => rowsIn_mem hab (lookup_of_mem_first h), fun h => rowsIn_mem hba (lookup_of_mem_first h)⟩

end Sylvia
