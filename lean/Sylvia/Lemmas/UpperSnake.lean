import Sylvia.Lemmas.Casing
/-! `ccUpperSnake` (the rule behind reply-id constant names) is injective on every name that serde gives back from its
UpperCamel form, so by `wire_name_shape` on the names of the property's shape: split at `_` the id string gives the name's
words in upper case, and `capital` ignores case, so the id string fixes the UpperCamel form. -/
namespace Casing
open Ch

theorem splitGo_us_free (s cur : List Ch) (h : us ∉ cur) : ∀ p ∈ splitGo s cur, us ∉ p := by
  fun_induction splitGo s cur with
  | case1 cur => simpa using h
  | case2 rest cur ih => simpa [h] using ih (by simp)
  | case3 c rest cur hc hb ih => simpa [h, Ne.symm hc] using ih (by simp)
  | case4 c rest cur hc hb ih => exact ih (by simp [h, Ne.symm hc])

theorem upperSnake_splitOn (s : List Ch) (h : ccSplit s ≠ []) :
    (ccUpperSnake s).splitOn us = (ccSplit s).map (·.map toUpper) := by
  refine List.splitOn_intercalate us ?_ (by simpa using h)
  simp only [List.mem_map, ccSplit, List.mem_filter]
  rintro _ ⟨p, ⟨hp, _⟩, rfl⟩ hus
  obtain ⟨c, hc, hcu⟩ := List.mem_map.mp hus
  cases c <;> simp [toUpper] at hcu
  exact splitGo_us_free s [] (by simp) p hp hc

theorem capital_toUpper (p : List Ch) : capital (p.map toUpper) = capital p := by
  cases p with
  | nil => rfl
  | cons c p =>
    simp only [capital, List.map_cons, List.map_map, List.cons.injEq]
    exact ⟨by cases c <;> rfl, List.map_congr_left fun c _ => by cases c <;> rfl⟩

theorem upperCamel_of_upperSnake (s : List Ch) :
    ccUpperCamel s = (((ccUpperSnake s).splitOn us).map capital).flatten := by
  by_cases h : ccSplit s = []
  · simp [ccUpperCamel, ccUpperSnake, h, capital]
  · rw [upperSnake_splitOn s h, ccUpperCamel, List.map_map]
    exact congrArg (fun g => ((ccSplit s).map g).flatten) (funext fun p => (capital_toUpper p).symm)

theorem upperSnake_injective_of_roundtrip {s s' : List Ch} (hs : serdeSnake (ccUpperCamel s) = s)
    (hs' : serdeSnake (ccUpperCamel s') = s') (h : ccUpperSnake s = ccUpperSnake s') : s = s' := by
  rw [← hs, ← hs', upperCamel_of_upperSnake s, h, ← upperCamel_of_upperSnake]

end Casing
