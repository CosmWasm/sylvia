import Sylvia.Model.Reply
/-! The reply table built by the fold `Reply.replyTable`: what one step (`upsert`) returns, the invariant the
steps keep, and which method of an entry `dispatchReply` finds. -/
namespace Sylvia.Reply

/-- the outcomes of one entry never exclude one another -/
def Compatible (hs : List (Name × ReplyOn)) : Prop := hs.Pairwise fun a b => excludes a.2 b.2 = false

def TableOk (tbl : List Entry) : Prop :=
  (∀ e ∈ tbl, Compatible e.handlers) ∧ (tbl.map (·.id)).Nodup

theorem excludes_symm (a b : ReplyOn) : excludes a b = excludes b a := by
  cases a <;> cases b <;> rfl

theorem findIdx?_eq {α : Type} (p : α → Bool) (l : List α) : findIdx? p l = l.findIdx? p := by
  induction l with
  | nil => rfl
  | cons x r ih => rw [findIdx?, ih, List.findIdx?_cons]

section upsert
variable {b : Bool} {tyEq : Ty → Ty → Bool} {acc : List Entry × List Diag} {m : Method} {h : Name} {e : Entry}

theorem upsert_excluded (hf : acc.1.find? (·.id == replyIdOf h) = some e)
    (hex : e.handlers.any (fun p => excludes p.2 (replyOnOfMethod m)) = true) :
    upsert b tyEq acc (m, h) = (acc.1, acc.2 ++ [.duplicated (replyIdOf h)]) := by
  simp only [upsert, hf, hex, if_true]

theorem upsert_merged (hf : acc.1.find? (·.id == replyIdOf h) = some e)
    (hex : e.handlers.any (fun p => excludes p.2 (replyOnOfMethod m)) = false) :
    upsert b tyEq acc (m, h) =
      (acc.1.map fun x => if x.id == replyIdOf h then (mergeEntry b tyEq e m).1 else x, acc.2 ++ (mergeEntry b tyEq e m).2) := by
  simp only [upsert, hf, hex, Bool.false_eq_true, if_false]

theorem upsert_new (hf : acc.1.find? (·.id == replyIdOf h) = none) :
    upsert b tyEq acc (m, h) = (acc.1 ++ [(newEntry m h).1], acc.2 ++ (newEntry m h).2) := by
  simp only [upsert, hf]

end upsert

theorem compatible_append {hs : List (Name × ReplyOn)} {x : Name × ReplyOn} (h : Compatible hs)
    (hx : hs.any (fun p => excludes p.2 x.2) = false) : Compatible (hs ++ [x]) := by
  refine List.pairwise_append.mpr ⟨h, List.pairwise_singleton _ _, fun a ha b hb => ?_⟩
  rw [List.mem_singleton.mp hb]
  exact Bool.eq_false_iff.mpr (List.any_eq_false.mp hx a ha)

theorem tableOk_replace {tbl : List Entry} (h : TableOk tbl) {e : Entry} {id : String} (hid : e.id = id)
    (hc : Compatible e.handlers) : TableOk (tbl.map fun x => if x.id == id then e else x) := by
  constructor
  · intro x hx
    obtain ⟨y, hy, rfl⟩ := List.mem_map.mp hx
    split
    · exact hc
    · exact h.1 y hy
  · rw [List.map_map, List.map_congr_left (g := (·.id))]
    · exact h.2
    · intro x _
      simp only [Function.comp]
      split
      · exact hid.trans (beq_iff_eq.mp ‹_›).symm
      · rfl

theorem tableOk_append {tbl : List Entry} (h : TableOk tbl) {e : Entry} (hc : Compatible e.handlers)
    (hid : tbl.find? (·.id == e.id) = none) : TableOk (tbl ++ [e]) := by
  constructor
  · intro x hx
    rcases List.mem_append.mp hx with hx | hx
    · exact h.1 x hx
    · rw [List.mem_singleton.mp hx]; exact hc
  · rw [List.map_append, List.nodup_append]
    refine ⟨h.2, List.pairwise_singleton _ _, fun a ha b hb => ?_⟩
    obtain ⟨x, hx, rfl⟩ := List.mem_map.mp ha
    rw [List.mem_singleton.mp hb]
    exact fun heq => List.find?_eq_none.mp hid x hx (beq_iff_eq.mpr heq)

theorem upsert_ok (b : Bool) (tyEq : Ty → Ty → Bool) (acc : List Entry × List Diag) (mh : Method × Name)
    (h : TableOk acc.1) : TableOk (upsert b tyEq acc mh).1 := by
  obtain ⟨m, hn⟩ := mh
  cases hf : acc.1.find? (·.id == replyIdOf hn) with
  | none =>
    rw [upsert_new hf]
    exact tableOk_append h (List.pairwise_singleton _ _) hf
  | some e =>
    cases hex : e.handlers.any (fun p => excludes p.2 (replyOnOfMethod m)) with
    | true => rw [upsert_excluded hf hex]; exact h
    | false =>
      -- unfolding `mergeEntry`: the merged entry keeps the id it was found under and lists the new method last
      have hid := List.find?_some hf
      rw [upsert_merged hf hex]
      exact tableOk_replace h (e := (mergeEntry b tyEq e m).1) (beq_iff_eq.mp hid)
        (compatible_append (h.1 e (List.mem_of_find?_eq_some hf)) hex)

/-- **Table invariant**: whatever the methods and their order, every entry of the table holds mutually
compatible outcomes (at most one `success`, at most one `error`, `always` alone) and ids are distinct. -/
theorem replyTable_ok (b : Bool) (tyEq : Ty → Ty → Bool) (ms : List Method) : TableOk (replyTable b tyEq ms).1 :=
  List.foldlRecOn (motive := fun acc => TableOk acc.1) _ _ ⟨by simp, by simp⟩ fun acc h x _ => upsert_ok b tyEq acc x h

/-- a method declared for `b` serves result `o` when `b` is `o` or `always` -/
theorem serves_of_excludes_false {a b : ReplyOn} (o : ReplyOn) (h : excludes a b = false)
    (hb : (b == o || b == .always) = true) : (a == o || a == .always) = false := by
  simp only [excludes, Bool.or_eq_false_iff, Bool.or_eq_true, beq_iff_eq, beq_eq_false_iff_ne] at *
  rcases hb with rfl | hb
  · exact h.1
  · exact absurd hb h.2

/-- at most one method of a compatible entry serves a result, so `find?` returns it wherever it stands -/
theorem find_serving {hs : List (Name × ReplyOn)} (h : Compatible hs) (o : ReplyOn) {x : Name × ReplyOn} (hx : x ∈ hs)
    (hp : (x.2 == o || x.2 == .always) = true) : hs.find? (fun p => p.2 == o || p.2 == .always) = some x := by
  induction hs with
  | nil => cases hx
  | cons y r ih =>
    obtain ⟨hy, hr⟩ := List.pairwise_cons.mp h
    rw [List.find?_cons]
    rcases List.mem_cons.mp hx with rfl | hx'
    · rw [hp]
    · rw [serves_of_excludes_false o (hy x hx') hp]
      exact ih hr hx'

theorem find_none_of_absent {hs : List (Name × ReplyOn)} (o : ReplyOn)
    (h1 : ∀ fn, (fn, o) ∉ hs) (h2 : ∀ fn, (fn, ReplyOn.always) ∉ hs) :
    hs.find? (fun p => p.2 == o || p.2 == .always) = none := by
  rw [List.find?_eq_none]
  intro x hx
  simp only [Bool.or_eq_true, beq_iff_eq, not_or]
  exact ⟨fun e => h1 x.1 (e ▸ hx), fun e => h2 x.1 (e ▸ hx)⟩

end Sylvia.Reply
