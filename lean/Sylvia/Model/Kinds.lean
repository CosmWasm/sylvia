/-! Message kinds and reply triggers: the vocabulary shared by the model and the regenerated tables. -/
namespace Sylvia

inductive Kind | exec | query | instantiate | migrate | reply | sudo
  deriving DecidableEq, Repr, Inhabited

def Kind.all : List Kind := [.exec, .query, .instantiate, .migrate, .reply, .sudo]

theorem Kind.mem_all (k : Kind) : k ∈ Kind.all := by cases k <;> decide

inductive ReplyOn | success | error | always
  deriving DecidableEq, Repr, Inhabited

/-- association-list lookup used for all regenerated tables -/
def lookup {α β : Type} [DecidableEq α] (t : List (α × β)) (a : α) : Option β :=
  match t with
  | [] => none
  | (x, y) :: r => if x = a then some y else lookup r a

/-- text is carried as its list of UTF-8 bytes so that equality reduces in the kernel -/
abbrev Str := List Nat

/-- code points of the text; equal to its UTF-8 bytes for the ASCII identifiers and keywords the tables hold
(chosen over `toUTF8` because it reduces by `decide`/`rfl`) -/
def Str.ofString (s : String) : Str := s.toList.map Char.toNat

end Sylvia
