/-! Semantics prelude for functions regenerated from Rust source by the function translator
(`vlib/rs2lean.py`): a result type distinguishing a normal value, a Rust panic (explicit `panic!`,
`unreachable!`, index out of bounds) and fuel exhaustion of a translated `while` loop. -/
namespace RustSem

inductive Res (α : Type) where
  | ok (a : α)
  | panic
  | oof
deriving DecidableEq, Repr

def Res.bind {α β : Type} : Res α → (α → Res β) → Res β
  | .ok a, f => f a
  | .panic, _ => .panic
  | .oof, _ => .oof

/-- how a translated loop ended: ran to completion with the final values of the variables it
assigns (`done`), or left the enclosing function through `return` (`ret`) -/
inductive LoopOut (σ ρ : Type) where
  | done (s : σ)
  | ret (r : ρ)
deriving Repr

/-- `a[i]` -/
def idx {α : Type} (l : List α) (i : Nat) : Res α :=
  match l[i]? with
  | some a => .ok a
  | none => .panic

/-- `a[i] = v` -/
def setIdx {α : Type} (l : List α) (i : Nat) (v : α) : Res (List α) :=
  if i < l.length then .ok (l.set i v) else .panic

/-- `s.char_indices()` for strings over a one-byte alphabet: every character with its byte offset -/
def charIndicesFrom {α : Type} (k : Nat) : List α → List (Nat × α)
  | [] => []
  | a :: t => (k, a) :: charIndicesFrom (k + 1) t

def charIndices {α : Type} (l : List α) : List (Nat × α) := charIndicesFrom 0 l

@[simp] theorem bind_ok {α β : Type} (a : α) (f : α → Res β) : (Res.ok a).bind f = f a := rfl
@[simp] theorem bind_panic {α β : Type} (f : α → Res β) : (Res.panic : Res α).bind f = .panic := rfl
@[simp] theorem bind_oof {α β : Type} (f : α → Res β) : (Res.oof : Res α).bind f = .oof := rfl

/-- a call in tail position is translated as `(call).bind fun v => .ok v` -/
theorem bind_ok_right {α : Type} (x : Res α) : (x.bind fun a => .ok a) = x := by cases x <;> rfl

theorem idx_of_getElem? {α : Type} {l : List α} {i : Nat} {a : α} (h : l[i]? = some a) : idx l i = .ok a := by
  rw [idx, h]

theorem idx_lt {α : Type} {l : List α} {i : Nat} (h : i < l.length) : idx l i = .ok l[i] :=
  idx_of_getElem? (List.getElem?_eq_getElem h)

theorem setIdx_of_lt {α : Type} {l : List α} {i : Nat} (v : α) (h : i < l.length) : setIdx l i v = .ok (l.set i v) :=
  if_pos h

theorem setIdx_append_cons {α : Type} {pre : List α} {i : Nat} (h : pre.length = i) (a v : α) (rest : List α) :
    setIdx (pre ++ a :: rest) i v = .ok (pre ++ v :: rest) := by
  subst h
  rw [setIdx_of_lt v (by simp), List.set_append_right _ _ (Nat.le_refl _), Nat.sub_self]
  rfl

end RustSem

namespace RustSem
/-- `iter.map(f).collect::<Result<Vec<_>, _>>()`: elements are converted left to right, the first `Err` ends the iteration
(the closure is not called on the remaining elements) -/
def collectResult {α β ε : Type} (f : α → Res (Except ε β)) : List α → Res (Except ε (List β))
  | [] => .ok (.ok [])
  | a :: r =>
    (f a).bind fun v =>
      match v with
      | .error e => .ok (.error e)
      | .ok b => (collectResult f r).bind fun w =>
        match w with
        | .error e => .ok (.error e)
        | .ok bs => .ok (.ok (b :: bs))

section
variable {α β ε γ : Type} {f : α → Res (Except ε β)}

theorem collectResult_ok (v : α → γ) (w : β → γ) (l : List α) (h : ∀ a ∈ l, ∃ b, f a = .ok (.ok b) ∧ w b = v a) :
    ∃ bs, collectResult f l = .ok (.ok bs) ∧ bs.map w = l.map v := by
  induction l with
  | nil => exact ⟨[], rfl, rfl⟩
  | cons a r ih =>
    obtain ⟨⟨b, hb, hv⟩, hr⟩ := List.forall_mem_cons.mp h
    obtain ⟨bs, hbs, hvs⟩ := ih hr
    exact ⟨b :: bs, by rw [collectResult, hb, hbs]; rfl, by rw [List.map_cons, hv, hvs]; rfl⟩

theorem collectResult_err {p : α → Prop} [DecidablePred p] {e : ε} (l : List α)
    (he : ∀ a ∈ l, p a → f a = .ok (.error e)) (hok : ∀ a ∈ l, ¬p a → ∃ b, f a = .ok (.ok b)) (h : ∃ a ∈ l, p a) :
    collectResult f l = .ok (.error e) := by
  induction l with
  | nil => simp at h
  | cons a r ih =>
    rw [List.forall_mem_cons] at he hok
    by_cases ha : p a
    · rw [collectResult, he.1 ha]; rfl
    · obtain ⟨b, hb⟩ := hok.1 ha
      have hr : ∃ x ∈ r, p x := by simpa only [List.mem_cons, exists_eq_or_imp, ha, false_or] using h
      rw [collectResult, hb, ih he.2 hok.2 hr]; rfl

theorem collectResult_total (h : ∀ a, ∃ r, f a = .ok r) (l : List α) : ∃ o, collectResult f l = .ok o := by
  induction l with
  | nil => exact ⟨_, rfl⟩
  | cons a r ih =>
    obtain ⟨q, hq⟩ := h a
    obtain ⟨o, ho⟩ := ih
    rw [collectResult, hq, ho]
    cases q <;> cases o <;> exact ⟨_, rfl⟩
end
end RustSem

namespace RustSem
/-- `iter.map(f).collect::<Vec<_>>()` with a closure that may panic: elements are converted left to right -/
def mapRes {α β : Type} (f : α → Res β) : List α → Res (List β)
  | [] => .ok []
  | a :: r => (f a).bind fun b => (mapRes f r).bind fun bs => .ok (b :: bs)

theorem mapRes_ok {α β : Type} (f : α → Res β) (g : α → β) (h : ∀ a, f a = .ok (g a)) (l : List α) :
    mapRes f l = .ok (l.map g) := by
  induction l with
  | nil => rfl
  | cons a r ih => rw [mapRes, h, ih]; rfl
end RustSem

namespace RustSem
/-- `iter.enumerate().find(|(_, x)| p(x))`: the first element satisfying `p`, with its index -/
def enumFindFrom {α : Type} (p : α → Bool) (k : Nat) : List α → Option (Nat × α)
  | [] => none
  | a :: r => if p a then some (k, a) else enumFindFrom p (k + 1) r
def enumFind {α : Type} (p : α → Bool) (l : List α) : Option (Nat × α) := enumFindFrom p 0 l

section
variable {α : Type} (p : α → Bool)

theorem enumFindFrom_some {l : List α} {k n : Nat} {a : α} (h : enumFindFrom p k l = some (n, a)) :
    ∃ i, n = k + i ∧ l[i]? = some a ∧ p a = true ∧ ∀ j < i, ∀ b, l[j]? = some b → p b = false := by
  fun_induction enumFindFrom p k l with
  | case1 => cases h
  | case2 k x r hx => cases h; exact ⟨0, rfl, rfl, hx, nofun⟩
  | case3 k x r hx ih =>
    obtain ⟨i, rfl, ha, hp, hmin⟩ := ih h
    refine ⟨i + 1, by omega, ha, hp, fun j hj b hb => ?_⟩
    cases j with
    | zero => cases hb; exact Bool.eq_false_iff.mpr hx
    | succ j => exact hmin j (Nat.lt_of_succ_lt_succ hj) b hb

theorem enumFindFrom_at : ∀ {l : List α} {i : Nat} {a : α} (k : Nat), l[i]? = some a → p a = true →
    (∀ j < i, ∀ b, l[j]? = some b → p b = false) → enumFindFrom p k l = some (k + i, a)
  | x :: r, 0, a, k, h, hp, _ => by cases h; rw [enumFindFrom, if_pos hp]; rfl
  | x :: r, i + 1, a, k, h, hp, hmin => by
    rw [List.getElem?_cons_succ] at h
    rw [enumFindFrom, if_neg (Bool.eq_false_iff.mp (hmin 0 (by omega) x rfl)),
      enumFindFrom_at (k + 1) h hp fun j hj b hb => hmin (j + 1) (by omega) b (by rwa [List.getElem?_cons_succ]),
      Nat.add_assoc, Nat.add_comm 1]

theorem enumFindFrom_none : ∀ {l : List α} (k : Nat), (∀ a ∈ l, p a = false) → enumFindFrom p k l = none
  | [], _, _ => rfl
  | x :: r, k, h => by
    rw [enumFindFrom, if_neg (Bool.eq_false_iff.mp (h x List.mem_cons_self)),
      enumFindFrom_none (k + 1) fun a ha => h a (List.mem_cons_of_mem _ ha)]

end
end RustSem
